/-
C04 — Typed values are exactly what the value parser's language admits.
-/
import ClapModel
namespace Clap.C04
open Clap Values

/-! #### 1. ranged integer parsers: a language equality -/

/-- the integer grammar a ranged parser reads with -/
def grammar (p : Ranged) (raw : Bytes) : Option Int :=
  if p.viaU64 then intGrammarUnsigned raw else intGrammarSigned raw

/-- the parse width's own range -/
def inWidth (p : Ranged) (v : Int) : Prop :=
  if p.viaU64 then 0 ≤ v ∧ v ≤ u64Max else i64Min ≤ v ∧ v ≤ i64Max

theorem check_ok (p : Ranged) (w v : Int) :
    p.check w = .ok v ↔ w = v ∧ boundsContain p.lo p.hi v = true ∧ p.tmin ≤ v ∧ v ≤ p.tmax := by
  unfold Ranged.check
  cases hb : boundsContain p.lo p.hi w
  · simp; intro h; subst h; simp [hb]
  · by_cases ht : p.tmin ≤ w ∧ w ≤ p.tmax
    · simp [ht]; intro h; subst h; exact ⟨hb, ht⟩
    · simp [ht]; intro h _ h1; subst h; omega

-- `parse::<i64>` / `parse::<u64>`: read by the grammar, keep what fits the width
theorem fits_some {o : Option Int} {P : Int → Prop} [DecidablePred P] {w : Int} :
    (match o with | some v => if P v then some v else none | none => none) = some w ↔ o = some w ∧ P w := by
  cases o with
  | none => simp
  | some v =>
    by_cases hv : P v <;> simp only [hv, if_true, if_false, Option.some.injEq, reduceCtorEq, false_iff]
    · exact ⟨fun h => ⟨h, h ▸ hv⟩, And.left⟩
    · exact fun ⟨h, hw⟩ => hv (h ▸ hw)

theorem readInt_some (p : Ranged) (raw : Bytes) (v : Int) :
    p.readInt raw = some v ↔ grammar p raw = some v ∧ inWidth p v := by
  unfold Ranged.readInt grammar inWidth parseU64 parseI64
  cases p.viaU64 <;> exact fits_some

theorem parse_ok (p : Ranged) (raw : Bytes) (v : Int) :
    p.parse raw = .ok v ↔ Utf8.valid raw = true ∧ ∃ w, p.readInt raw = some w ∧ p.check w = .ok v := by
  unfold Ranged.parse
  cases Utf8.valid raw <;> cases p.readInt raw <;> simp

/-- **accepted ⇔ in the language**: a ranged parser returns `v` exactly when the
raw string is UTF-8, denotes the decimal integer `v`, `v` fits the parse width,
lies inside both declared bounds and inside the target type. The typed value
is the mathematical value of the string: never wrapped or truncated. -/
theorem ranged_language (p : Ranged) (raw : Bytes) (v : Int) :
    p.parse raw = .ok v ↔
      Utf8.valid raw = true ∧ grammar p raw = some v ∧ inWidth p v ∧
      boundsContain p.lo p.hi v = true ∧ p.tmin ≤ v ∧ v ≤ p.tmax := by
  simp only [parse_ok, readInt_some, check_ok]
  constructor
  · rintro ⟨h, w, ⟨h1, h2⟩, rfl, h3⟩; exact ⟨h, h1, h2, h3⟩
  · rintro ⟨h, h1, h2, h3⟩; exact ⟨h, v, ⟨h1, h2⟩, rfl, h3⟩

/-- every rejection is a value error: `InvalidUtf8` exactly for non-UTF-8 input,
`ValueValidation` otherwise (never `InvalidValue`) -/
theorem ranged_rejection_kind (p : Ranged) (raw : Bytes) (e : VErr) (h : p.parse raw = .err e) :
    (e = .invalidUtf8 ↔ Utf8.valid raw = false) ∧ e ≠ .invalidValue := by
  unfold Ranged.parse Ranged.check at h
  cases hv : Utf8.valid raw <;> simp [hv] at h
  · subst h; simp
  · split at h
    · simp at h; subst h; simp
    · split at h
      · simp at h; subst h; simp
      · split at h <;> simp at h
        subst h; simp

/-! #### 2. the factories and `From<Range>` conversions extracted from the source -/

/-- a factory whose declared range is its target type's `MIN..=MAX` (or nothing
at all when the parse width is the target type) -/
def FactoryOk (f : Gen.IntFactory) : Bool :=
  (f.lo == .included || f.lo == .unbounded) && (f.hi == .included || f.hi == .unbounded) &&
  (if f.viaU64 then decide (0 ≤ f.tmin ∧ f.tmax ≤ u64Max) else decide (i64Min ≤ f.tmin ∧ f.tmax ≤ i64Max)) &&
  (f.lo == .unbounded → (if f.viaU64 then f.tmin == 0 else f.tmin == i64Min)) &&
  (f.hi == .unbounded → (if f.viaU64 then f.tmax == u64Max else f.tmax == i64Max))

/-- checked against the table re-extracted from `value_parser.rs` on every run -/
theorem factories_ok : ∀ f ∈ Gen.intFactories, FactoryOk f = true := by decide

theorem factories_cover : Gen.intFactories.map (·.ty) = ["u8", "i8", "u16", "i16", "u32", "i32", "u64", "i64"] := rfl

-- `.range` on a fresh parser just installs the two bounds
theorem new_range (u : Bool) (a b : Int) (lo hi : Bound) : (Ranged.new u a b).range lo hi = ⟨u, lo, hi, a, b⟩ := by
  cases lo <;> cases hi <;> rfl

-- the factory is a variable: what makes the language come out right is `FactoryOk`, not the table.  The
-- target type's range implies both the width and the declared bounds, so it alone is left
theorem factory_language_of_ok (f : Gen.IntFactory) (hok : FactoryOk f = true) (raw : Bytes) (v : Int) :
    (ofFactory f).parse raw = .ok v ↔
      Utf8.valid raw = true ∧ (if f.viaU64 then intGrammarUnsigned raw else intGrammarSigned raw) = some v ∧
      f.tmin ≤ v ∧ v ≤ f.tmax := by
  simp only [FactoryOk, Bool.and_eq_true, Bool.or_eq_true, beq_iff_eq] at hok
  obtain ⟨⟨⟨⟨hlo, hhi⟩, hw⟩, -⟩, -⟩ := hok
  rw [ofFactory, new_range, ranged_language]
  refine ⟨fun ⟨a, b, _, _, c, d⟩ => ⟨a, b, c, d⟩, fun ⟨a, b, c, d⟩ => ⟨a, b, ?_, ?_, c, d⟩⟩
  · unfold inWidth
    cases hu : f.viaU64 <;> simp only [hu, ↓reduceIte, Bool.false_eq_true, decide_eq_true_eq] at hw ⊢ <;>
      exact ⟨Int.le_trans hw.1 c, Int.le_trans d hw.2⟩
  · -- a bound that is not exclusive and sits on the end of `[tmin, tmax]` holds inside `[tmin, tmax]`
    rcases hlo with h | h <;> rcases hhi with h' | h' <;> simp [h, h', shapeBound, boundsContain, c, d]

/-- **`value_parser!(T)` accepts precisely the decimal integers of `T`** -/
theorem factory_language (f : Gen.IntFactory) (hf : f ∈ Gen.intFactories) (raw : Bytes) (v : Int) :
    (ofFactory f).parse raw = .ok v ↔
      Utf8.valid raw = true ∧ (if f.viaU64 then intGrammarUnsigned raw else intGrammarSigned raw) = some v ∧
      f.tmin ≤ v ∧ v ≤ f.tmax :=
  factory_language_of_ok f (factories_ok f hf) raw v

/-- the six `impl From<std::ops::R<i64>> for ValueParser`, as extracted, are the
mathematical meaning of the Rust range syntax -/
theorem fromRanges_table : Gen.fromRanges =
    [⟨"Range", .included, .excluded⟩, ⟨"RangeInclusive", .included, .included⟩, ⟨"RangeFrom", .included, .unbounded⟩,
     ⟨"RangeTo", .unbounded, .excluded⟩, ⟨"RangeToInclusive", .unbounded, .included⟩, ⟨"RangeFull", .unbounded, .unbounded⟩] := rfl

/-- what `a..b`, `a..=b`, `a..`, `..b`, `..=b`, `..` mean -/
def rangeMeaning (kind : String) (s e v : Int) : Prop :=
  if kind = "Range" then s ≤ v ∧ v < e
  else if kind = "RangeInclusive" then s ≤ v ∧ v ≤ e
  else if kind = "RangeFrom" then s ≤ v
  else if kind = "RangeTo" then v < e
  else if kind = "RangeToInclusive" then v ≤ e
  else True

-- row by row, the two bound shapes say what the range syntax means
theorem fromRange_meaning (r : Gen.FromRange) (hr : r ∈ Gen.fromRanges) (s e v : Int) :
    boundsContain (shapeBound r.lo s) (shapeBound r.hi e) v = true ↔ rangeMeaning r.kind s e v := by
  rw [fromRanges_table] at hr
  simp only [List.mem_cons, List.not_mem_nil, or_false] at hr
  rcases hr with rfl | rfl | rfl | rfl | rfl | rfl <;> simp [shapeBound, boundsContain, rangeMeaning]

/-- **`Arg::value_parser(range)` accepts precisely the `i64` decimal integers in the range** -/
theorem fromRange_language (r : Gen.FromRange) (hr : r ∈ Gen.fromRanges) (s e : Int) (raw : Bytes) (v : Int) :
    (ofFromRange r s e).parse raw = .ok v ↔
      Utf8.valid raw = true ∧ intGrammarSigned raw = some v ∧ i64Min ≤ v ∧ v ≤ i64Max ∧ rangeMeaning r.kind s e v := by
  rw [ranged_language, ofFromRange, new_range, fromRange_meaning r hr]
  exact ⟨fun ⟨a, b, _, m, c, d⟩ => ⟨a, b, c, d, m⟩, fun ⟨a, b, c, d, m⟩ => ⟨a, b, ⟨c, d⟩, m, c, d⟩⟩

/-! #### 3. `.range()` narrows by replacing the specified ends -/

theorem range_spec (p : Ranged) (lo hi : Bound) (v : Int) :
    boundsContain (p.range lo hi).lo (p.range lo hi).hi v =
      boundsContain (match lo with | .unbounded => p.lo | b => b) (match hi with | .unbounded => p.hi | b => b) v := by
  cases lo <;> cases hi <;> rfl

/-! #### 4. boolean-like parsers accept precisely their documented literals -/

/-- y, yes, t, true, on, 1 -/
theorem true_literals_documented :
    Gen.trueLiterals = [[121], [121, 101, 115], [116], [116, 114, 117, 101], [111, 110], [49]] := rfl
/-- n, no, f, false, off, 0 -/
theorem false_literals_documented :
    Gen.falseLiterals = [[110], [110, 111], [102], [102, 97, 108, 115, 101], [111, 102, 102], [48]] := rfl

/-- no literal is both true and false (so the order of the two table look-ups is immaterial) -/
theorem literals_disjoint : ∀ l ∈ Gen.trueLiterals, l ∉ Gen.falseLiterals := by decide

theorem bool_language (raw : Bytes) (b : Bool) :
    boolParser raw = .ok b ↔ (raw = bTrue ∧ b = true) ∨ (raw = bFalse ∧ b = false) := by
  unfold boolParser
  by_cases h1 : raw = bTrue
  · subst h1
    cases b <;> simp [show bTrue ≠ bFalse by decide]
  · by_cases h2 : raw = bFalse
    · subst h2
      cases b <;> simp [show bFalse ≠ bTrue by decide]
    · cases b <;> simp [h1, h2]

theorem strToBool_some (s : Bytes) (b : Bool) :
    strToBool s = some b ↔ toLowercase s ∈ (if b then Gen.trueLiterals else Gen.falseLiterals) := by
  unfold strToBool
  by_cases ht : toLowercase s ∈ Gen.trueLiterals
  · have hf := literals_disjoint _ ht
    cases b <;> simp [ht, hf]
  · by_cases hf : toLowercase s ∈ Gen.falseLiterals <;> cases b <;> simp [ht, hf]

theorem boolish_language (raw : Bytes) (b : Bool) :
    boolishParser raw = .ok b ↔
      Utf8.valid raw = true ∧ toLowercase raw ∈ (if b then Gen.trueLiterals else Gen.falseLiterals) := by
  rw [← strToBool_some]
  unfold boolishParser
  cases Utf8.valid raw <;> cases strToBool raw <;> simp

/-- falsey: every (UTF-8) string is accepted; it is `false` exactly for the empty
string and the false literals -/
theorem falsey_language (raw : Bytes) (b : Bool) :
    falseyParser raw = .ok b ↔
      Utf8.valid raw = true ∧ (b = false ↔ (raw = [] ∨ toLowercase raw ∈ Gen.falseLiterals)) := by
  have := strToBool_some raw false
  simp only [Bool.false_eq_true, ↓reduceIte] at this
  rw [← this]
  unfold falseyParser
  cases Utf8.valid raw <;> cases raw <;> cases b <;> cases strToBool _ <;> simp

/-! #### 5. possible values -/

theorem matches_iff (p : PossibleValue) (raw : Bytes) (ic : Bool) : p.matches raw ic = true ↔
    ∃ n ∈ p.name :: p.aliases, (if ic then eqIgnoreAsciiCase n raw = true else n = raw) := by
  unfold PossibleValue.matches
  cases ic
  · simp only [Bool.false_eq_true, ↓reduceIte, List.any_cons, Bool.or_eq_true, beq_iff_eq, List.any_eq_true,
      List.mem_cons, exists_eq_or_imp]
  · simp

/-- accepted ⇔ equal (or ASCII-case-equal when asked) to a declared name or
alias; the typed value is the input itself -/
theorem possible_language (pvs : List PossibleValue) (ic : Bool) (raw v : Bytes) :
    possibleValuesParser pvs ic raw = .ok v ↔
      Utf8.valid raw = true ∧ v = raw ∧
      ∃ p ∈ pvs, ∃ n ∈ p.name :: p.aliases, (if ic then eqIgnoreAsciiCase n raw = true else n = raw) := by
  simp only [possibleValuesParser, ← matches_iff, ← List.any_eq_true]
  cases Utf8.valid raw <;> cases pvs.any (fun v => v.matches raw ic) <;> simp [eq_comm]

/-- without `ignore_case` nothing but an exact name or alias is accepted -/
theorem possible_exact (pvs : List PossibleValue) (raw v : Bytes)
    (h : possibleValuesParser pvs false raw = .ok v) : ∃ p ∈ pvs, raw = p.name ∨ raw ∈ p.aliases := by
  obtain ⟨_, _, p, hp, n, hn, hm⟩ := (possible_language pvs false raw v).1 h
  simp at hm hn
  subst hm
  exact ⟨p, hp, hn⟩

/-- the value enum parser returns the first variant that matches -/
theorem enum_first_match (vs : List PossibleValue) (ic : Bool) (raw : Bytes) (i : Nat)
    (h : enumValueParser vs ic raw = .ok i) :
    ∃ hi : i < vs.length, (vs[i]).matches raw ic = true ∧ ∀ j (hj : j < i), (vs[j]'(by omega)).matches raw ic = false := by
  unfold enumValueParser at h
  cases hv : Utf8.valid raw <;> simp [hv] at h
  cases hf : vs.findIdx? (fun v => v.matches raw ic) with
  | none => simp [hf] at h
  | some k =>
    simp [hf] at h
    subst h
    rw [List.findIdx?_eq_some_iff_getElem] at hf
    obtain ⟨hk, hm, hmin⟩ := hf
    exact ⟨hk, hm, fun j hj => by simpa using hmin j hj⟩

/-! #### 6. typed access never disturbs the store when it fails -/

section
open Store

theorem read_frame (s : St) (op : Op)
    (h : (∃ id t, op = .getOne id t ∨ op = .getMany id t) ∨ (∃ id, op = .getRaw id ∨ op = .contains id)) :
    (step s op).1 = s := by
  rcases h with ⟨id, t, rfl | rfl⟩ | ⟨id, rfl | rfl⟩ <;> simp only [step] <;> split <;> (try split) <;> rfl

-- a writing access is `getT`, or the `known` test, followed by a continuation that cannot fail: the only
-- errors are those of the test, and then nothing has been touched yet
theorem error_frame (s : St) (op : Op) (h : (step s op).2 = .errDowncast ∨ (step s op).2 = .errUnknown) :
    (step s op).1 = s := by
  cases op with
  | removeOne id t | removeMany id t =>
    simp only [step] at h ⊢
    split at h
    · rfl
    · rfl
    · next e _ => cases hv : e.vals <;> simp [hv] at h
  | clear id =>
    simp only [step] at h ⊢
    split at h
    · next hk => rw [if_pos hk]
    · simp at h
  | _ => exact read_frame s _ (by simp)

/-- a typed get/remove with the wrong type or an unknown id returns an error and
leaves the store equal (keys, order, values); reads never change it -/
theorem typed_access_frame (s : St) (op : Op) :
    ((step s op).2 = .errDowncast ∨ (step s op).2 = .errUnknown → (step s op).1 = s) ∧
    ((∃ id t, op = .getOne id t ∨ op = .getMany id t) ∨ (∃ id, op = .getRaw id ∨ op = .contains id) → (step s op).1 = s) :=
  ⟨error_frame s op, read_frame s op⟩

/-- over every history: if every call of a history failed or was a read, the store is untouched -/
theorem typed_access_frame_history (ops : List Op) : ∀ (s : St),
    (∀ p ∈ run s ops, p.1 = .errDowncast ∨ p.1 = .errUnknown) → ∀ p ∈ run s ops, p.2 = s.args.map (·.1) := by
  induction ops with
  | nil => intro s _ p hp; simp [run] at hp
  | cons op ops ih =>
    intro s hall p hp
    simp only [run] at hall hp
    rw [error_frame s op (hall _ List.mem_cons_self)] at hall hp
    rcases List.mem_cons.1 hp with rfl | hp'
    · rfl
    · exact ih s (fun q hq => hall q (List.mem_cons_of_mem _ hq)) p hp'

/-- a successful removal takes out exactly that entry and keeps the others in order -/
theorem removeKey_sublist (id : Bytes) : ∀ l : List (Bytes × Entry), (removeKey id l).Sublist l
  | [] => by simp [removeKey]
  | p :: ps => by
    unfold removeKey
    split
    · exact List.sublist_cons_self p ps
    · exact (removeKey_sublist id ps).cons_cons p

end

end Clap.C04

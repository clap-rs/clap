/-
C06 — precedence as a frame property of the phases: whatever an earlier phase stored for an argument
(command line, then environment) is exactly what comes out of the later ones (environment, defaults).
-/
import ClapProofs.C07
import ClapProofs.Lemmas.Phases
namespace Clap.C06
open Clap Parser

/-- **a value from the environment or a default never touches another argument's entry** -/
theorem reactCore_other (c : Cmd) (ident : Option Ident) (s : Source) (a : Arg) (vals : List Bytes) (t : Option Nat)
    (p : P) (id : Id) (hs : (s == .cmdline) = false) (h : (a.id == id) = false)
    (hg : ∀ g ∈ c.groupsForArg a.id, (g == id) = false) :
    (reactCore c ident s a vals t p).1.args.get id = p.args.get id := by
  rw [ArgMap.get_eq_sel, sel_reactCore_other c ident s a vals t p id hs h hg, ArgMap.get_eq_sel]

/-- group ids and arg ids are kept apart (clap's build assertion "argument group name must be unique"), seen from
one entry: no group an arg belongs to carries this id -/
def NoGroupNamed (c : Cmd) (id : Id) : Prop := ∀ g ∈ c.groups, (g.id == id) = false

theorem groupsForArg_ne {c : Cmd} {id : Id} (h : NoGroupNamed c id) (aid : Id) : ∀ g ∈ c.groupsForArg aid, (g == id) = false := by
  intro g hg
  unfold Cmd.groupsForArg at hg
  obtain ⟨grp, hgrp, rfl⟩ := List.mem_map.1 hg
  exact h grp (List.mem_filter.1 hgrp).1

theorem contains_of_get {m : ArgMap} {id : Id} {ma : MatchedArg} (h : m.get id = some ma) : m.contains id = true := by
  rw [ArgMap.contains_iff_get, h]; rfl

/-- the entry of `id` and the empty pending buffer survive whatever `react` does for an arg that is not in the store -/
theorem keeps_step (c : Cmd) (id : Id) (ma : MatchedArg) (hg : NoGroupNamed c id) :
    PhaseStep c (fun p => p.args.get id = some ma ∧ p.pending = none) (fun _ => True) := by
  intro s a vals p hs hc ⟨hget, hp⟩
  have hne : (a.id == id) = false := beq_eq_false_iff_ne.2 fun e => by
    rw [e, contains_of_get hget] at hc
    cases hc
  have hrp : resolvePending c p = (p, .ok ()) := by
    unfold resolvePending
    rw [hp]
  refine Out.intro ⟨?_, (react_stored c none s a vals none p).pending⟩ (fun _ _ => trivial) (fun _ _ => trivial)
  unfold react
  rw [hrp]
  exact (reactCore_other c none s a vals none p id hs hne (groupsForArg_ne hg a.id)).trans hget

/-- **the environment pass leaves what is already there alone**: an entry present before `add_env` - stored by the
command line - comes out unchanged: same values, same source, same indices -/
theorem addEnv_keeps (c : Cmd) (id : Id) (ma : MatchedArg) (hg : NoGroupNamed c id) : ∀ (as : List Arg) (p : P),
    p.pending = none → p.args.get id = some ma → (addEnv c as p).1.args.get id = some ma ∧ (addEnv c as p).1.pending = none :=
  fun as p hp h => (addEnv_out (keeps_step c id ma hg) as p ⟨h, hp⟩).fst

/-- **the default pass leaves what is already there alone** - whether it came from the command line or from the
environment -/
theorem addDefaults_keeps (c : Cmd) (id : Id) (ma : MatchedArg) (hg : NoGroupNamed c id) : ∀ (as : List Arg) (p : P),
    p.pending = none → p.args.get id = some ma →
      (addDefaults c as p).1.args.get id = some ma ∧ (addDefaults c as p).1.pending = none :=
  fun as p hp h => (addDefaults_out (keeps_step c id ma hg) as p ⟨h, hp⟩).fst

/-- **command line beats environment beats default**: what the matcher holds for an argument when the token loop
has finished (pending values resolved) is exactly - values, source, indices - what it holds after the environment
and default passes, whatever env vars and defaults this or any other argument declares -/
theorem earlier_phase_wins (c : Cmd) (id : Id) (ma : MatchedArg) (hg : NoGroupNamed c id) (p : P) (hp : p.pending = none)
    (hget : p.args.get id = some ma) :
    (addDefaults c c.args (addEnv c c.args p).1).1.args.get id = some ma := by
  obtain ⟨h1, h2⟩ := addEnv_keeps c id ma hg c.args p hp hget
  exact (addDefaults_keeps c id ma hg c.args _ h2 h1).1

/-- the hypotheses are met: an entry stored by the command line on a command without groups -/
example :
    let c : Cmd := .mk [112] [] none none [] [] {} [{ id := [111], long := some [111], env := some (some [101]), defaultVals := [[100]] }] [] []
    let p : P := { args := [([111], { source := some .cmdline, rawVals := [[[118]]] })] }
    NoGroupNamed c [111] ∧ p.pending = none ∧ ∃ ma, p.args.get [111] = some ma := by
  refine ⟨(by intro g hg; cases hg), rfl, _, rfl⟩

end Clap.C06

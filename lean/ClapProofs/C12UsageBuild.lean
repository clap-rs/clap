/-
C12 — the usage line renders for every level AS THE USER WROTE IT: `_build_self` establishes `UsageOk`
(`ClapProofs/C12Usage.lean`) from what the configuration checks assert about the definition, so
`renderUsage_isSome` needs no hypothesis about built state.
-/
import ClapModel
import ClapProofs.C01Build
import ClapProofs.C12Usage
namespace Clap.C12U
open Clap Usage Validator Build C01

/-- the `requires` targets of args and groups exist, as the user wrote the level (`debug_asserts.rs`:
"Argument or group … specified in 'requires*' … does not exist") -/
structure UserRefsOk (c : Cmd) : Prop where
  argRefs : ∀ a ∈ c.args, ∀ p ∈ a.requires, (∃ a' ∈ c.args, a'.id = p.2) ∨ (∃ g ∈ c.groups, g.id = p.2)
  groupRefs : ∀ g ∈ c.groups, ∀ r ∈ g.requires, (∃ a' ∈ c.args, a'.id = r) ∨ (∃ g' ∈ c.groups, g'.id = r)

theorem buildArg_requires (a : Arg) : (buildArg a).requires = a.requires := rfl
theorem buildArg_isPositional (a : Arg) : (buildArg a).isPositional = a.isPositional := rfl

theorem cmdLevelArg_more (st : LevelSwitches) (a : Arg) :
    (cmdLevelArg st a).requires = a.requires ∧ (cmdLevelArg st a).isPositional = a.isPositional := by
  obtain ⟨h, n, t, e⟩ := cmdLevelArg_shape st a
  rw [e]
  exact ⟨rfl, rfl⟩

/-- the per-arg loop keeps `requires` and positional-ness, gives every positional an index, and creates groups
without `requires` only -/
theorem buildArgs_more : ∀ (as : List Arg) (pc : Nat) (gs : List Group),
    (∀ b ∈ (buildArgs as pc gs).1, ∃ a ∈ as, b.id = a.id ∧ b.requires = a.requires) ∧
    (∀ b ∈ (buildArgs as pc gs).1, b.isPositional = true → b.index.isSome = true) ∧
    (∀ g' ∈ (buildArgs as pc gs).2, g'.requires = [] ∨ ∃ g ∈ gs, g.id = g'.id ∧ g'.requires = g.requires) := by
  intro as pc gs
  refine ⟨fun b hb => ?_, fun b hb hp => ?_, fun g' hg' => ?_⟩
  · obtain ⟨a, ha, i, rfl, _⟩ := buildArgs_shape as pc gs b hb
    exact ⟨a, ha, rfl, rfl⟩
  · obtain ⟨a, ha, i, rfl, _, h2⟩ := buildArgs_shape as pc gs b hb
    exact h2 hp
  · obtain ⟨g, hg | ⟨x, rfl⟩, xs, _, rfl⟩ := (buildArgs_groups as pc gs).2 g' hg'
    · exact Or.inr ⟨g, hg, rfl, rfl⟩
    · exact Or.inl rfl

/-- **one level of `_build_self` makes the level fit for `usage.rs`** -/
theorem buildSelfCore_usageOk (c : Cmd) (h : UserLevelOk c) (hr : UserRefsOk c) : UsageOk (buildSelfCore c) := by
  obtain ⟨hwf, hgroups⟩ := buildSelfCore_level c h
  obtain ⟨st, hA⟩ := buildSelfCore_args c
  have hG := buildSelfCore_groups c
  obtain ⟨k1, k2, k3⟩ := buildArgs_more (args2 c) 1 c.groups
  have hids : (buildSelfCore c).args.map (·.id) = (args2 c).map (·.id) := by
    rw [hA, List.map_map, ← buildArgs_ids (args2 c) 1 c.groups]
    exact List.map_congr_left fun a _ => (cmdLevelArg_fields st a).1
  -- an id of the user's level is still an arg / a group id after the build
  have argStays : ∀ a' ∈ c.args, ((buildSelfCore c).find a'.id).isSome = true := fun a' ha' =>
    find_isSome_of_id (by rw [hids]; exact List.mem_map_of_mem (args2_sub c a' ha'))
  have groupStays : ∀ g ∈ c.groups, ((buildSelfCore c).findGroup g.id).isSome = true := fun g hg => by
    obtain ⟨g1, hg1, hid1⟩ := (buildArgs_groups (args2 c) 1 c.groups).1 g hg
    exact findGroup_isSome_of_id ⟨g1, by rw [hG]; exact hg1, hid1⟩
  refine ⟨hgroups, ⟨?_, ?_⟩, ?_⟩
  · intro b hb p hp
    rw [hA] at hb
    obtain ⟨b0, hb0, rfl⟩ := List.mem_map.1 hb
    rw [(cmdLevelArg_more st b0).1] at hp
    obtain ⟨a, ha, _, hreq⟩ := k1 b0 hb0
    rw [hreq] at hp
    rcases args2_mem c a ha with h2 | h2 | h2
    · rcases hr.argRefs a h2 p hp with ⟨a', ha', hid⟩ | ⟨g, hg, hid⟩
      · exact Or.inl (hid ▸ argStays a' ha')
      · exact Or.inr (hid ▸ groupStays g hg)
    · subst h2; simp [helpArg] at hp
    · subst h2; simp [versionArg] at hp
  · intro g' hg' r hrq
    rw [hG] at hg'
    rcases k3 g' hg' with h0 | ⟨g, hg, _, hreq⟩
    · rw [h0] at hrq; cases hrq
    · rw [hreq] at hrq
      rcases hr.groupRefs g hg r hrq with ⟨a', ha', hid⟩ | ⟨g0, hg0, hid⟩
      · exact Or.inl (hid ▸ argStays a' ha')
      · exact Or.inr (hid ▸ groupStays g0 hg0)
  · intro p hp
    obtain ⟨hpa, hpos⟩ := positionals_mem _ p hp
    rw [hA] at hpa
    obtain ⟨b0, hb0, rfl⟩ := List.mem_map.1 hpa
    rw [(cmdLevelArg_more st b0).2] at hpos
    rw [(cmdLevelArg_fields st b0).2.2.2.2]
    exact k2 b0 hb0 hpos

/-- **the usage line of a freshly built level always renders**: for a level as the user wrote it - unique ids, none
called `help`/`version`, indices only on positionals, group members and `requires` targets that exist - `render_usage()`
(which builds the level first) reaches no `unwrap` / `expect` / `debug_assert!` of `usage.rs` -/
theorem renderUsage_total_user (c : Cmd) (u : UInfo) (h : UserLevelOk c) (hr : UserRefsOk c) :
    (renderUsage (buildSelfCore c) u).isSome = true :=
  renderUsage_isSome _ u (buildSelfCore_usageOk c h hr)

/-! non-vacuity: a level as a user writes it (`--out <o>` required and requiring the group `g`, whose member is the
positional `i`) meets both hypotheses -/
def exUser : Cmd :=
  Cmd.mk [112] [] none none [] [] {}
    [ { id := [111], long := some [111, 117, 116], required := true, requires := [(.isPresent, [103])] },
      { id := [105] } ]
    [ { id := [103], args := [[105]], requires := [[111]] } ] []

example : UserLevelOk exUser := ⟨by decide +kernel, by decide +kernel, by decide +kernel, by decide +kernel, by decide +kernel⟩
example : UserRefsOk exUser := ⟨by decide +kernel, by decide +kernel⟩
example : (renderUsage (buildSelfCore exUser) { usageName := [112] }).isSome = true :=
  renderUsage_total_user exUser _ ⟨by decide +kernel, by decide +kernel, by decide +kernel, by decide +kernel, by decide +kernel⟩ ⟨by decide +kernel, by decide +kernel⟩

end Clap.C12U

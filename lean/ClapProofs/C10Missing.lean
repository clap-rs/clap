/-
C10 — what a `MissingRequiredArgument` rejection reports (`ClapModel/Usage.lean`: `missingRequired`, the list
`validate_required` hands to `missing_required_error`).

* `missing_are_absent`: every id reported missing is not explicitly present in the matches.
* `error_iff_missing_nonempty`: the validator's verdict (`Validator.validateRequired`, the model the parser theorems
  are about) is `MissingRequiredArgument` exactly when that list is non-empty - the list model and the verdict model
  are two readings of the same loop.
-/
import ClapModel
import ClapProofs.C03Closure
import ClapProofs.Lemmas.UsagePasses
namespace Clap.C10M
open Clap Usage Validator C12U

theorem pass1_spec (c : Cmd) (m : ArgMap) (pot : List (Id × List Id)) (excl : Bool) :
    ∀ (rs acc : List Id) (hi : Nat) (acc' : List Id) (hi' : Nat),
    missingPass1 c m pot excl rs acc hi = some (acc', hi') →
    ∃ ext, acc' = acc ++ ext ∧ requiredLoop c m pot excl rs = .ok (!ext.isEmpty) ∧
      (∀ id ∈ ext, m.checkExplicit id .isPresent = false) ∧ (hi < hi' → ext ≠ []) := by
  intro rs acc hi acc' hi' h
  obtain ⟨ext, h1, h2, h3, h4⟩ := missingPass1_some rs acc hi h
  exact ⟨ext, h1, h2, fun id hid => (h3 id hid).1, h4⟩

theorem pass2_spec (m : ArgMap) (excl : Bool) : ∀ (as : List Arg) (acc : List Id) (hi : Nat),
    ∃ ext, (missingPass2 m excl as acc hi).1 = acc ++ ext ∧
      (!ext.isEmpty) = ((as.any fun a => conditionallyMissing m a) && !excl) ∧
      (∀ id ∈ ext, m.checkExplicit id .isPresent = false) ∧ (hi < (missingPass2 m excl as acc hi).2 → ext ≠ []) := by
  intro as acc hi
  obtain ⟨h1, h2⟩ := missingPass2_eq m excl as acc hi
  refine ⟨_, h1, ?_, fun id hid => ?_, fun h hn => h2 h (List.map_eq_nil_iff.1 hn)⟩
  · rw [not_isEmpty_map_filter]
    cases excl <;> simp
  · obtain ⟨a, ha, rfl⟩ := List.mem_map.1 hid
    exact conditionallyMissing_absent (Bool.and_eq_true_iff.1 (List.mem_filter.1 ha).2).1

/-- **every id reported missing is absent**: nothing that is explicitly present on the line is named by a
`MissingRequiredArgument` error -/
theorem missing_are_absent (c : Cmd) (m : ArgMap) (pot : List (Id × List Id)) (l : List Id)
    (h : missingRequired c m pot = some l) : ∀ id ∈ l, m.checkExplicit id .isPresent = false := by
  obtain ⟨e1, hi1, h1, rfl⟩ := missingRequired_eq_some.1 h
  obtain ⟨ext, he, _, hall, _⟩ := missingPass1_some _ _ _ h1
  rw [List.nil_append] at he
  subst he
  intro id hid
  rcases List.mem_append.1 hid with hid | hid
  · rcases List.mem_append.1 hid with hid | hid
    · exact (hall id hid).1
    · obtain ⟨a, ha, rfl⟩ := List.mem_map.1 hid
      exact conditionallyMissing_absent (Bool.and_eq_true_iff.1 (List.mem_filter.1 ha).2).1
  · split at hid
    · cases hid
    · obtain ⟨p, hp, rfl⟩ := List.mem_map.1 hid
      exact eq_false_of_ne_true fun ht => by simp [ht] at hp

/-- **the verdict and the report agree**: when the report can be computed (no internal `expect` fails) on a level
whose positionals are indexed (`_build_self` numbers them), the validator rejects with `MissingRequiredArgument` exactly
when the list of missing ids is non-empty -/
theorem error_iff_missing_nonempty (c : Cmd) (m : ArgMap) (pot : List (Id × List Id)) (l : List Id)
    (hidx : ∀ p ∈ c.positionals, p.index.isSome = true)
    (h : missingRequired c m pot = some l) :
    validateRequired c m pot = .error .missingRequiredArgument ↔ l ≠ [] := by
  obtain ⟨e1, hi1, h1, rfl⟩ := missingRequired_eq_some.1 h
  obtain ⟨ext, he, hl1, _, hhi1⟩ := missingPass1_some _ _ _ h1
  rw [List.nil_append] at he
  subst he
  obtain ⟨_, hhi2⟩ := missingPass2_eq m (isExclusivePresent c m) c.args e1 hi1
  have hb : ((c.args.any fun a => conditionallyMissing m a) && !isExclusivePresent c m) =
      !((c.args.filter fun a => conditionallyMissing m a && !isExclusivePresent c m).map (·.id)).isEmpty := by
    rw [not_isEmpty_map_filter]
    cases isExclusivePresent c m <;> simp
  unfold validateRequired
  rw [hl1]
  simp only
  rw [hb]
  generalize (c.args.filter fun a => conditionallyMissing m a && !isExclusivePresent c m) = e2 at hhi2 ⊢
  by_cases h12 : e1 = [] ∧ e2 = []
  · obtain ⟨rfl, rfl⟩ := h12
    -- nothing was pushed, so the highest index stayed 0 and no positional is below it
    have h0 : ¬ 0 < hi1 := fun hlt => hhi1 hlt rfl
    have h2 : ¬ hi1 < (missingPass2 m (isExclusivePresent c m) c.args [] hi1).2 := fun hlt => hhi2 hlt rfl
    have hzero : (missingPass2 m (isExclusivePresent c m) c.args [] hi1).2 = 0 := by omega
    rw [hzero]
    refine ⟨fun hv => (nomatch hv), fun hne => absurd ?_ hne⟩
    simp only [List.map_nil, List.append_nil, List.nil_append]
    split
    · rfl
    · simp only [List.map_eq_nil_iff, List.filter_eq_nil_iff]
      intro p hp
      obtain ⟨i, hi⟩ := Option.isSome_iff_exists.1 (hidx p hp)
      simp [hi]
  · have hne : e1 ++ e2.map (·.id) ≠ [] := fun h0 =>
      h12 ⟨(List.append_eq_nil_iff.1 h0).1, List.map_eq_nil_iff.1 (List.append_eq_nil_iff.1 h0).2⟩
    have : (!e1.isEmpty || !(e2.map (·.id)).isEmpty) = true := by
      cases e1 with
      | cons _ _ => rfl
      | nil =>
        cases e2 with
        | cons _ _ => rfl
        | nil => exact absurd ⟨rfl, rfl⟩ h12
    rw [this]
    exact ⟨fun _ h0 => hne (List.append_eq_nil_iff.1 h0).1, fun _ => rfl⟩

/-! ### the strings of the error -/

/-- where the option strings and positional slots of `get_required_usage_from` come from: an arg among the requested
ids that was not skipped -/
theorem argPass_origin (c : Cmd) (u : UInfo) (members : List Id) (r : Bool) (skip : Arg → Bool) :
    ∀ (reqs : List Id) (opts : List Bytes) (pos : List (Option Bytes)) (opts' : List Bytes) (pos' : List (Option Bytes)),
    argPass c u members r skip reqs opts pos = some (opts', pos') →
    let P := fun (x : Bytes) => ∃ q ∈ reqs, ∃ a, c.find q = some a ∧ skip a = false ∧ x = stylized u a r
    (∀ x ∈ opts', x ∈ opts ∨ P x) ∧ (∀ x, some x ∈ pos' → some x ∈ pos ∨ P x) := by
  intro reqs opts pos opts' pos' h P
  obtain ⟨a1, a2⟩ := argPass_spec h
  have toP : ∀ a, WritesArg c members skip reqs a → P (stylized u a r) :=
    fun a ⟨q, hq, hf, hs⟩ => ⟨q, hq, a, hf, (Bool.or_eq_false_iff.mp hs).2, rfl⟩
  refine ⟨fun x hx => ((a1 x).mp hx).imp_right fun ⟨a, w, _, e⟩ => e ▸ toP a w, fun x hx => ?_⟩
  -- whoever wrote the slot last is an arg the pass writes; an untouched slot was there before
  obtain ⟨i, e⟩ := mem_iff_getSlot.mp hx
  rcases a2 i with ⟨a, w, _, e'⟩ | ⟨_, e'⟩
  · cases e'.symm.trans e
    exact Or.inr (toP a w)
  · exact Or.inl (mem_iff_getSlot.mpr ⟨i, e' ▸ e⟩)

/-- **every string of a `MissingRequiredArgument` error is justified**: it is the display of a required group none of
whose members is present, or the display (as required) of an argument among the requested ids - the required graph,
what it requires, and the ids found missing - that is NOT explicitly present in the matches -/
theorem requiredUsageFrom_justified (c : Cmd) (u : UInfo) (required incls : List Id) (m : ArgMap) (inclLast : Bool)
    (ps : List Bytes) (h : requiredUsageFrom c u required incls (some m) inclLast = some ps) :
    ∀ x ∈ ps,
      (∃ a, a ∈ c.args ∧ m.checkExplicit a.id .isPresent = false ∧ x = stylized u a true) ∨
      (∃ g, (c.findGroup g).isSome = true ∧ formatGroup c u g = some x) := by
  unfold requiredUsageFrom at h
  simp only at h
  split at h
  · cases h
  · next groups members hg =>
    split at h
    · cases h
    · next opts pos ha =>
      cases h
      obtain ⟨a1, a2⟩ := argPass_spec ha
      -- an arg the second pass writes is not skipped, hence not explicitly present
      have absent : ∀ a, WritesArg c members (skipFor (some m) inclLast)
          (unrolledReqs c required (relevantWith (some m)) ++ incls) a →
          ∃ a', a' ∈ c.args ∧ m.checkExplicit a'.id .isPresent = false ∧ stylized u a true = stylized u a' true :=
        fun a ⟨_, _, hf, hs⟩ =>
          ⟨a, (C03.find_mem hf).1, (Bool.or_eq_false_iff.1 (Bool.or_eq_false_iff.1 hs).2).1, rfl⟩
      intro x hx
      rcases List.mem_append.mp hx with hx | hx
      · rcases List.mem_append.mp hx with hx | hx
        · obtain ⟨a, w, _, rfl⟩ := ((a1 x).mp hx).resolve_left (fun h0 => nomatch h0)
          exact Or.inl (absent a w)
        · obtain ⟨g, _, l, w⟩ := (((groupPass_spec hg).1 x).mp hx).resolve_left (fun h0 => nomatch h0)
          exact Or.inr ⟨g, w.1, w.2.2.1⟩
      · obtain ⟨o, ho, rfl⟩ := List.mem_filterMap.mp hx
        obtain ⟨i, e⟩ := mem_iff_getSlot.mp ho
        rcases a2 i with ⟨a, w, _, e'⟩ | ⟨_, e'⟩
        · cases e'.symm.trans e
          exact Or.inl (absent a w)
        · rw [e'] at e
          cases e

/-- the same for the error as a whole: each string the error lists (`ContextKind::InvalidArg`) names an absent argument
or a group -/
theorem missingRequiredError_justified (c : Cmd) (u : UInfo) (m : ArgMap) (pot : List (Id × List Id))
    (rs : List Bytes) (line : Bytes) (h : missingRequiredError c u m pot = some (rs, line)) :
    ∀ x ∈ rs,
      (∃ a, a ∈ c.args ∧ m.checkExplicit a.id .isPresent = false ∧ x = stylized u a true) ∨
      (∃ g, (c.findGroup g).isSome = true ∧ formatGroup c u g = some x) := by
  unfold missingRequiredError at h
  split at h
  · cases h
  · next missing _ =>
    simp only at h
    split at h
    · cases h
    · next reqArgs hr =>
      cases hl : usageWithTitle c u (requiredIds c m)
          (((m.filter fun p => p.2.checkExplicit .isPresent).map (·.1)).filter
            (fun n => ((c.find n).map fun a => !a.hide).getD false) ++ missing) with
      | none => rw [hl] at h; cases h
      | some l =>
        rw [hl] at h
        simp only [Option.map_some, Option.some.injEq, Prod.mk.injEq] at h
        obtain ⟨rfl, _⟩ := h
        exact requiredUsageFrom_justified c u _ _ m true _ hr

/-! ### what an `ArgumentConflict` error of the validator is about -/

theorem conflictGo_about (c : Cmd) (u : UInfo) (m : ArgMap) (pot : List (Id × List Id)) :
    ∀ (ids : List Id) (ia : Bytes) (prior : List Bytes) (line : Bytes),
    conflictError.go c u m pot ids = some (some (ia, prior, line)) →
    ∃ id ∈ ids, ∃ a confs, c.find id = some a ∧ ia = displayArg u a ∧
      gatherConflicts c pot id = some confs ∧ confs ≠ [] ∧ conflictUsage c u m confs = some line := by
  intro ids
  induction ids with
  | nil => intro ia prior line h; simp [conflictError.go] at h
  | cons id rest ih =>
    intro ia prior line h
    unfold conflictError.go at h
    split at h
    · cases h
    · obtain ⟨id', hid', rest'⟩ := ih ia prior line h
      exact ⟨id', List.mem_cons_of_mem _ hid', rest'⟩
    · next confs hne hg =>
      split at h
      · next others former line' ho hf hl =>
        cases hm : (others.mapM fun i => (c.find i).map (displayArg u)) with
        | none => rw [hm] at h; cases h
        | some strs =>
          rw [hm] at h
          simp only [Option.map_some, Option.some.injEq, Prod.mk.injEq] at h
          obtain ⟨rfl, _, rfl⟩ := h
          exact ⟨id, List.mem_cons_self, former, confs, hf, rfl, hg, hne, hl⟩
      · cases h

/-- **a validator conflict is about an argument that is on the line**: the `InvalidArg` of the error is the display of
an argument of the level whose id is explicitly present in the matches (what else the error carries in the non-exclusive
case - a non-empty list of gathered conflicts and the usage line `build_conflict_err_usage` assembles for them - is
`conflictGo_about`) -/
theorem conflictError_about_present (c : Cmd) (u : UInfo) (m : ArgMap) (pot : List (Id × List Id))
    (ia : Bytes) (prior : List Bytes) (line : Bytes)
    (h : conflictError c u m pot = some (some (ia, prior, line))) :
    ∃ a, a ∈ c.args ∧ a.id ∈ explicitIds m ∧ ia = displayArg u a := by
  unfold conflictError at h
  simp only at h
  split at h
  · next a hex =>
    cases hl : usageWithTitle c u (requiredGraph c) [] with
    | none => rw [hl] at h; cases h
    | some l =>
      rw [hl] at h
      simp only [Option.map_some, Option.some.injEq, Prod.mk.injEq] at h
      obtain ⟨rfl, _, _⟩ := h
      split at hex
      · cases hex
      · have hmem := List.mem_of_head? hex
        obtain ⟨id, hid, hf⟩ := List.mem_filterMap.mp hmem
        cases hfi : c.find id with
        | none => rw [hfi] at hf; cases hf
        | some a' =>
          rw [hfi] at hf
          simp only [Option.filter] at hf
          split at hf
          · simp only [Option.some.injEq] at hf
            subst hf
            obtain ⟨hma, hida⟩ := C03.find_mem hfi
            exact ⟨a', hma, hida ▸ hid, rfl⟩
          · cases hf
  · obtain ⟨id, hid, a, confs, hf, hia, _, _, _⟩ := conflictGo_about c u m pot _ ia prior line h
    obtain ⟨hma, hida⟩ := C03.find_mem hf
    exact ⟨a, hma, hida ▸ (List.mem_filter.mp hid).1, hia⟩

end Clap.C10M

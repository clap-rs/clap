/-
C02 — attribution, positionals: what the token loop does with a value for a single-valued positional (`loop_pos_step`),
and the occurrence type `Occ` (long options, flags, positional values) with its abstract run.
-/
import ClapProofs.C02Attr
namespace Clap.C02
open Clap Parser Bytes

/-- a positional that takes exactly one value and has no special role -/
def SinglePos (a : Arg) : Prop :=
  a.isMultiple = false ∧ a.isMultipleValues = false ∧ a.last = false ∧ a.trailingVarArg = false ∧ a.terminator = none

instance (a : Arg) : Decidable (SinglePos a) := by unfold SinglePos; infer_instance

/-- a level whose positionals need no special ordering rules: no `allow_missing_positional`, and only the last
positional (the one with the highest index) may take several values -/
structure SimplePos (c : Cmd) : Prop where
  noMissing : c.settings.allowMissingPositional = false
  lastOnly : ∀ a ∈ c.args, a.isPositional = true → a.isMultiple = true → a.index = some c.positionalCount

/-- on such a level the "correct pos_counter" block leaves the counter alone - after `--` too, unless a positional is `last` -/
theorem correctPosCounter_simple {c : Cmd} (sp : SimplePos c) (ls : LoopSt) (peek : Option Bytes)
    (h : (ls.trailing && c.args.any (·.last)) = false) : correctPosCounter c ls peek = ls.posCounter := by
  have h1 : (c.positionals.any fun a => a.isMultiple && c.positionalCount != a.index.getD 0) = false := by
    apply Bool.eq_false_iff.2
    intro h
    rw [List.any_eq_true] at h
    obtain ⟨a, ha, h2⟩ := h
    unfold Cmd.positionals at ha
    obtain ⟨ha1, ha2⟩ := List.mem_filter.1 ha
    simp only [Bool.and_eq_true] at h2
    have := sp.lastOnly a ha1 ha2 h2.1
    rw [this] at h2
    simp at h2
  unfold correctPosCounter
  simp [h1, sp.noMissing, h]

/-- the positional part on a single-valued positional, before or after `--`: what is pending is resolved, the token is left
pending verbatim for the positional whose turn it is, and the counter moves on - whatever the token looks like -/
theorem positionalPart_single (c : Cmd) (similar : Bytes → Bytes → Bool) (v : Bytes) (rest : List Bytes)
    (k : LoopSt → P → R LoopEnd) (ls : LoopSt) (p : P) (a : Arg) (hsingle : SinglePos a)
    (hget : c.getPos (correctPosCounter c ls rest.head?) = some a) :
    positionalPart c similar v rest k ls p =
      match resolvePending c p with
      | (q, .error e) => (q, .error e)
      | (q, .ok ()) =>
        k { ls with st := .valuesDone, posCounter := correctPosCounter c ls rest.head? + 1, validArgFound := true }
          { q with pending := some { id := a.id, ident := some .index, rawVals := [v],
                                     trailingIdx := if ls.trailing then some 0 else none } } := by
  obtain ⟨hmul, hmv, hlast, htva, hterm⟩ := hsingle
  have hterm' : isTerminator a v = false := by simp [isTerminator, hterm]
  simp only [positionalPart, hget, hlast, Bool.false_and, hmv, Bool.not_false, Bool.or_true, htva, Bool.or_false,
    Bool.false_eq_true, ↓reduceIte, hterm', hmul]
  cases hr : resolvePending c p with
  | mk q r =>
    cases r with
    | error e => rfl
    | ok u =>
      have hqn : q.pending = none := resolvePending_ok_pending c p q u hr
      simp only [pendingPush, hqn, Option.getD_none, bne_self_eq_false, Bool.false_eq_true, ↓reduceIte, Option.isSome_some,
        Bool.true_and, List.length_nil, List.nil_append]
      cases ls.trailing <;> rfl

/-- **a positional value**: in the ground state a token that does not look like a flag is left pending, verbatim,
for the positional whose turn it is (after resolving what was pending before), and the counter moves on -/
theorem loop_pos_step (c : Cmd) (wf : C01.WF c) (sp : SimplePos c) (similar : Bytes → Bytes → Bool)
    (v : Bytes) (hnsv : NoSubTok c v) (a : Arg) (hsingle : SinglePos a) (hv : Bytes.startsWith v [dash] = false)
    (ls : LoopSt) (rest : List Bytes) (p : P) (htr : ls.trailing = false) (hst : ls.st = .valuesDone)
    (hget : c.getPos ls.posCounter = some a) :
    loop c similar ls (v :: rest) p =
      match resolvePending c p with
      | (q, .error e) => (q, .error e)
      | (q, .ok ()) =>
        loop c similar { ls with posCounter := ls.posCounter + 1, validArgFound := true } rest
          { q with pending := some { id := a.id, ident := some .index, rawVals := [v], trailingIdx := none } } := by
  have hcp := correctPosCounter_simple sp ls rest.head? (by simp [htr])
  rw [loop_value c similar ls v rest p htr hnsv hv]
  simp only [optValuePart, hst]
  rw [positionalPart_single c similar v rest _ ls p a hsingle (by rw [hcp]; exact hget), hcp]
  simp only [htr, hst, Bool.false_eq_true, ↓reduceIte]

/-! #### the general statement -/

inductive Occ
  | opt (o : SOcc)
  | pos (v : Bytes)

def Occ.spell : Occ → List Bytes
  | .opt o => o.spell
  | .pos v => [v]

/-- the abstract run: one `react` per occurrence, positionals in index order -/
def runAll (c : Cmd) : List Occ → Nat → P → R LoopEnd
  | [], _, p => (p, .ok .done)
  | .opt o :: rest, pc, p =>
    match findLong c o.name with
    | none => (p, .error .unknownArgument)
    | some a =>
      match react c (some .long) .cmdline a o.value.toList none p with
      | (p1, .error e) => (p1, .error e)
      | (p1, .ok _) => runAll c rest pc p1
  | .pos v :: rest, pc, p =>
    match c.getPos pc with
    | none => (p, .error .unknownArgument)
    | some a =>
      match react c (some .index) .cmdline a [v] none p with
      | (p1, .error e) => (p1, .error e)
      | (p1, .ok _) => runAll c rest (pc + 1) p1

/-- the command line is well-formed: options as in `SOcc.ok`; a positional value does not look like a flag and
there is a positional left to take it -/
def okAll (c : Cmd) : List Occ → Nat → Prop
  | [], _ => True
  | .opt o :: rest, pc => o.ok c ∧ okAll c rest pc
  | .pos v :: rest, pc => NoSubTok c v ∧ Bytes.startsWith v [dash] = false ∧ (∃ a, c.getPos pc = some a ∧ SinglePos a) ∧ okAll c rest (pc + 1)

/-- the hypotheses are met by `prog file --flag other` on a command with two positionals and a flag -/
example :
    let c : Cmd := .mk [112] [] none none [] [] {}
      [{ id := [102], long := some [102], action := some .setTrue, numVals := some ⟨0, some 0⟩ },
       { id := [97], index := some 1 }, { id := [98], index := some 2 }] [] []
    c.subs = [] ∧ SimplePos c ∧ okAll c [.pos [120], .opt ⟨[102], none, false⟩, .pos [121]] 1 := by
  refine ⟨rfl, ⟨rfl, ?_⟩, ⟨noSubTok_of_no_subs _ rfl _, by decide +kernel, ⟨_, rfl, by decide +kernel⟩,
    ⟨⟨noSubTok_of_no_subs _ rfl _, by decide +kernel, by decide +kernel, by decide +kernel, _, rfl, by decide +kernel⟩, ?_⟩,
    noSubTok_of_no_subs _ rfl _, by decide +kernel, ⟨_, rfl, by decide +kernel⟩, trivial⟩⟩
  · intro a ha hp hm
    simp [Cmd.args] at ha
    rcases ha with rfl | rfl | rfl
    · simp [Arg.isPositional] at hp
    · exact absurd hm (by decide +kernel)
    · exact absurd hm (by decide +kernel)
  · intro h; cases h

end Clap.C02

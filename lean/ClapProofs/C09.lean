/-
C09 — Subcommand dispatch follows argv, and global arguments agree at every level.
-/
import ClapModel
import ClapProofs.C02
import ClapProofs.Lemmas.Lookup
namespace Clap.C09
open Clap Parser Globals C02

/-! #### dispatch -/

theorem findSubcommand_self (c : Cmd) (sc : Cmd) (h : sc ∈ c.subs) : (c.findSubcommand sc.name).isSome = true := by
  unfold Cmd.findSubcommand
  rw [List.find?_isSome]
  exact ⟨sc, h, by simp [Cmd.aliasesTo]⟩

theorem findSubcommand_alias (c : Cmd) (sc : Cmd) (al : Bytes) (h : sc ∈ c.subs) (ha : al ∈ sc.aliases) :
    (c.findSubcommand al).isSome = true := by
  unfold Cmd.findSubcommand
  rw [List.find?_isSome]
  exact ⟨sc, h, by simp [Cmd.aliasesTo, ha]⟩

/-- **whatever `possible_subcommand` answers names a subcommand of this level**: the
`expect` on `find_subcommand` after the token loop can never fail -/
theorem possibleSubcommand_resolves (c : Cmd) (arg : Bytes) (vaf : Bool) (n : Bytes)
    (h : possibleSubcommand c arg vaf = some n) : (c.findSubcommand n).isSome = true := by
  obtain ⟨s, hs, m, hm, hk⟩ := C01.possibleSubcommand_sound h
  rcases hk with ⟨rfl, _⟩ | ⟨rfl, _⟩
  · rcases hm with rfl | hm
    · exact findSubcommand_self c s hs
    · exact findSubcommand_alias c s _ hs hm
  · exact findSubcommand_self c s hs

/-- an exact name or alias is never shadowed by prefix inference: with at least two
prefix candidates the lookup falls back to the exact match -/
theorem exact_name_dispatches (c : Cmd) (arg : Bytes) (sc : Cmd) (hutf : Utf8.valid arg = true)
    (hnoconf : (c.settings.argsConflictsWithSubcommands && vaf) = false)
    (hexact : c.findSubcommand arg = some sc) (hinf : c.settings.inferSubcommands = false) :
    possibleSubcommand c arg vaf = some sc.name := by
  unfold possibleSubcommand
  simp [hutf, hnoconf, hinf, hexact]

/-- `args_conflicts_with_subcommands` after a valid arg: nothing dispatches -/
theorem no_dispatch_after_arg (c : Cmd) (arg : Bytes) (h : c.settings.argsConflictsWithSubcommands = true) :
    possibleSubcommand c arg true = none := by
  rw [possibleSubcommand]
  by_cases h1 : (!Utf8.valid arg) = true
  · rw [if_pos h1]
  · rw [if_neg h1, if_pos (by rw [h]; rfl)]

/-! #### external subcommands -/

/-- the external subcommand's matches hold exactly the remaining argv, in order, as one occurrence -/
theorem external_verbatim (rest : List Bytes) :
    (externalMatches rest).get [] = some { source := some .cmdline, rawVals := [rest] } := by
  simp [externalMatches, ArgMap.get]

/-! #### global propagation -/

/-- writing a whole map into a level: afterwards the level agrees with the map on every key of the map
(keys of the map unique) -/
theorem writeAll_get (vals : ArgMap) (hk : (keys vals).Nodup) : ∀ (level : ArgMap) (g : Id) (ma : MatchedArg),
    vals.get g = some ma → (vals.foldl (fun (acc : ArgMap) p => acc.insert p.1 p.2) level).get g = some ma := by
  intro level g ma h
  -- the entry of `g` is written once, and no later write has its key
  obtain ⟨l, r, e, _, hr⟩ := ArgMap.exists_split h hk
  rw [e, List.foldl_append, List.foldl_cons]
  refine foldl_inv (I := fun (acc : ArgMap) => acc.get g = some ma) (fun x hx acc hacc => ?_) ?_
  · have hne : (x.1 == g) = false := beq_eq_false_iff_ne.2 fun e' => hr (e' ▸ List.mem_map_of_mem hx)
    rw [ArgMap.get_insert, hne]
    exact hacc
  · rw [ArgMap.get_insert, beq_self_eq_true]
    rfl

/-- the `vals_map` accumulated on the way down keeps unique keys -/
theorem collect_nodup (level : ArgMap) : ∀ (globals : List Id) (acc : ArgMap), (keys acc).Nodup →
    (keys (globals.foldl (fun (acc : ArgMap) g =>
      match level.get g with
      | some ma =>
        let rankOpt : Option Source → Nat := fun o => match o with | none => 0 | some s => s.rank + 1
        let toUpdate := match acc.get g with
          | some parent => if rankOpt parent.source > rankOpt ma.source then parent else ma
          | none => ma
        acc.insert g toUpdate
      | none => acc) acc)).Nodup := by
  intro globals
  induction globals with
  | nil => intro acc h; exact h
  | cons g gs ih =>
    intro acc h
    simp only [List.foldl_cons]
    apply ih
    split
    · exact ArgMap.ids_insert_nodup _ _ _ h
    · exact h

/-- **every level of the chain ends up with the same entry for every propagated global**:
all rewritten levels agree with the final `vals_map` on each of its keys -/
theorem globals_agree (globals : List Id) : ∀ (levels : List ArgMap) (vals : ArgMap), (keys vals).Nodup →
    (keys (fillIn globals levels vals).2).Nodup ∧
    ∀ L ∈ (fillIn globals levels vals).1, ∀ g ma, (fillIn globals levels vals).2.get g = some ma → L.get g = some ma := by
  intro levels
  induction levels with
  | nil => intro vals hk; simp [fillIn]; exact hk
  | cons level below ih =>
    intro vals hk
    unfold fillIn
    simp only
    have h1 := collect_nodup level globals vals hk
    obtain ⟨hk2, hagree⟩ := ih _ h1
    refine ⟨hk2, ?_⟩
    intro L hL g ma hg
    rcases List.mem_cons.1 hL with rfl | hL'
    · exact writeAll_get _ hk2 level g ma hg
    · exact hagree L hL' g ma hg

/-- hence any two levels of the chain report the same value and source for a propagated global -/
theorem globals_equal_across_levels (globals : List Id) (levels : List ArgMap) (L1 L2 : ArgMap)
    (h1 : L1 ∈ (fillIn globals levels []).1) (h2 : L2 ∈ (fillIn globals levels []).1) (g : Id) (ma : MatchedArg)
    (hg : (fillIn globals levels []).2.get g = some ma) : L1.get g = L2.get g := by
  obtain ⟨_, hagree⟩ := globals_agree globals levels [] (by simp [keys])
  rw [hagree L1 h1 g ma hg, hagree L2 h2 g ma hg]

end Clap.C09

/-
C12 — Help always renders, lists every visible item and nothing hidden.

The theorems are about the layout model (`ClapModel/HelpLayout.lean`) over the
visibility predicates and the width/padding arithmetic that the translator
re-extracts from `help_template.rs` on every run.
-/
import ClapModel
import ClapProofs.Lemmas.ListFold
namespace Clap.C12
open Clap Help Gen

/-! #### sections: every shown arg in exactly its section, hidden ones nowhere -/

theorem mem_membersOf (ul : Bool) (args : List HArg) (k : Kind) (a : HArg) :
    a ∈ membersOf ul args k ↔ a ∈ args ∧ sectionOf a = k ∧ shouldShowArg ul a = true := by
  simp [membersOf, List.mem_filter]

/-- **what a section holds**: exactly the args of that heading that pass `should_show_arg` -/
theorem section_members (ul : Bool) (args : List HArg) (k : Kind) (l : List HArg) (h : (k, l) ∈ sections ul args) (a : HArg) :
    a ∈ l ↔ a ∈ args ∧ sectionOf a = k ∧ shouldShowArg ul a = true := by
  unfold sections at h
  simp only [List.mem_filter, List.mem_map] at h
  obtain ⟨⟨k', _, hk⟩, _⟩ := h
  simp only [Prod.mk.injEq] at hk
  obtain ⟨rfl, rfl⟩ := hk
  exact mem_membersOf ul args k' a

theorem mem_customHeadings (args : List HArg) (h : Bytes) : h ∈ customHeadings args ↔ ∃ a ∈ args, a.heading = some h := by
  unfold customHeadings
  rw [mem_foldl_insertNew]
  simp [List.mem_filterMap]

/-- **every arg that is not hidden for this help mode is listed in its section**
(Arguments / Options / its custom heading), for every set of args -/
theorem shown_is_listed (ul : Bool) (args : List HArg) (a : HArg) (ha : a ∈ args) (hs : shouldShowArg ul a = true) :
    ∃ l, (sectionOf a, l) ∈ sections ul args ∧ a ∈ l := by
  have hmem : a ∈ membersOf ul args (sectionOf a) := (mem_membersOf ul args _ a).2 ⟨ha, rfl, hs⟩
  refine ⟨_, ?_, hmem⟩
  unfold sections
  simp only [List.mem_filter, List.mem_map]
  refine ⟨⟨sectionOf a, ?_, rfl⟩, ?_⟩
  · unfold sectionOf
    cases hh : a.heading with
    | none => simp; split <;> simp
    | some h =>
      simp only [List.mem_append, List.mem_map]
      exact Or.inr ⟨h, (mem_customHeadings args h).2 ⟨a, ha, hh⟩, rfl⟩
  · cases hm : membersOf ul args (sectionOf a) with
    | nil => rw [hm] at hmem; cases hmem
    | cons _ _ => rfl

/-- **an arg hidden for this help mode is in no section** -/
theorem hidden_not_listed (ul : Bool) (args : List HArg) (a : HArg) (hs : shouldShowArg ul a = false) :
    ∀ s ∈ sections ul args, a ∉ s.2 := by
  intro s hsm hmem
  have := (section_members ul args s.1 s.2 hsm a).1 hmem
  simp [hs] at this

/-- `hide(true)` hides in both modes (`next_line_help` does not resurrect it) -/
theorem hide_never_shown (ul : Bool) (a : HArg) (h : a.hide = true) : shouldShowArg ul a = false := by
  simp [shouldShowArg, h]

/-- hidden subcommands are filtered before anything is measured or written -/
theorem hidden_sub_not_shown (sc : HSub) (h : sc.hide = true) : shouldShowSubcommand sc = false := by
  simp [shouldShowSubcommand, h]

/-! #### `longest` dominates every shown member -/

theorem foldl_max_ge_init {α : Type} (f : α → Nat) (l : List α) (m : Nat) : m ≤ l.foldl (fun m a => max m (f a)) m := by
  induction l generalizing m with
  | nil => simp
  | cons x xs ih => simp only [List.foldl_cons]; exact Nat.le_trans (Nat.le_max_left _ _) (ih _)

theorem foldl_max_ge_mem {α : Type} (f : α → Nat) (l : List α) (m : Nat) (a : α) (ha : a ∈ l) :
    f a ≤ l.foldl (fun m a => max m (f a)) m := by
  induction l generalizing m with
  | nil => simp at ha
  | cons x xs ih =>
    simp only [List.foldl_cons]
    rcases List.mem_cons.1 ha with rfl | h
    · exact Nat.le_trans (Nat.le_max_right _ _) (foldl_max_ge_init f xs _)
    · exact ih _ h

theorem longest_ge (ul : Bool) (members : List HArg) (a : HArg) (ha : a ∈ members) (hs : shouldShowArg ul a = true) :
    actualWidth a ≤ longest ul members :=
  foldl_max_ge_mem actualWidth _ _ a (List.mem_filter.2 ⟨ha, hs⟩)

/-! #### padding: every subtraction is defined and the result is bounded -/

theorem checkedSub_of_le {a b : Nat} (h : b ≤ a) : ∃ n, checkedSub a b = some n ∧ n ≤ a :=
  ⟨a - b, if_pos h, Nat.sub_le a b⟩

/-- every arg is measured at least as wide as it is displayed -/
theorem dispW_le_actualWidth (a : HArg) : dispW a ≤ actualWidth a := by
  unfold actualWidth
  split
  · split
    · exact Nat.le_refl _
    · exact Nat.le_add_right _ _
  · exact Nat.le_refl _

/-- an arg with a long flag is measured with `SHORT_SIZE` -/
theorem actualWidth_of_long {a : HArg} (h : a.long.isSome = true) : actualWidth a = dispW a + shortSize := by
  have hp : a.isPositional = false := by rw [HArg.isPositional, Option.isNone_eq_false_iff.mpr h]; rfl
  rw [actualWidth, longestFilter, h, Bool.or_true, Bool.true_or, if_pos rfl, hp, if_neg Bool.false_ne_true]
  rfl

/-- what `align_to_about` subtracts is at most the arg's measured width plus its pad: an arg with a long flag is measured
with `SHORT_SIZE`; one without gets the 4 columns in its pad (the `else` branch of F4) -/
theorem alignSelfLen_le (a : HArg) :
    alignSelfLenOpt a ≤ actualWidth a + (if a.long.isSome then alignPadLong else alignPadShortOnly) ∧
    alignSelfLenPos a ≤ actualWidth a + alignPadPos := by
  refine ⟨?_, Nat.le_trans (dispW_le_actualWidth a) (Nat.le_add_right _ _)⟩
  by_cases h : a.long.isSome = true
  · rw [if_pos h, actualWidth_of_long h]; exact Nat.le_add_right _ _
  · rw [if_neg h]; exact Nat.add_le_add (dispW_le_actualWidth a) (by decide)
/-- **no underflow, no unbounded padding in `align_to_about`**: for every section
(any mix of short-only / long-only flags, counts, options, positionals), every member
shown in this mode, either help mode and either next-line decision, the padding is
defined and at most `longest + TAB_WIDTH + 4`. -/
theorem padding_defined (ul nl : Bool) (members : List HArg) (a : HArg) (ha : a ∈ members)
    (hs : shouldShowArg ul a = true) :
    ∃ n, alignPadding ul nl a (longest ul members) = some n ∧ n ≤ longest ul members + tabWidth + 4 := by
  have hge := longest_ge ul members a ha hs
  obtain ⟨h1, h2⟩ := alignSelfLen_le a
  unfold alignPadding
  by_cases h0 : (ul || nl) = true
  · rw [if_pos h0]; exact ⟨0, rfl, Nat.zero_le _⟩
  · rw [if_neg h0]
    by_cases hp : (!a.isPositional) = true
    · have hpad : (if a.long.isSome then alignPadLong else alignPadShortOnly) ≤ tabWidth + 4 := by split <;> decide
      obtain ⟨n, e, hn⟩ := checkedSub_of_le (Nat.le_trans h1 (Nat.add_le_add_right hge _))
      rw [if_pos hp]
      exact ⟨n, e, Nat.le_trans hn (Nat.add_le_add_left hpad _)⟩
    · obtain ⟨n, e, hn⟩ := checkedSub_of_le (Nat.le_trans h2 (Nat.add_le_add_right hge _))
      rw [if_neg hp]
      exact ⟨n, e, Nat.le_trans hn (Nat.le_add_right _ 4)⟩

theorem subLongest_ge (subs : List HSub) (sc : HSub) (h : sc ∈ subs) (hs : shouldShowSubcommand sc = true) :
    (subDisplay sc).length ≤ subLongest subs :=
  foldl_max_ge_mem (fun sc => (subDisplay sc).length) _ _ sc (List.mem_filter.2 ⟨h, hs⟩)

/-- the same for the subcommand column (`subcmd`) -/
theorem subcmd_padding_defined (nl : Bool) (subs : List HSub) (sc : HSub) (h : sc ∈ subs)
    (hs : shouldShowSubcommand sc = true) :
    ∃ n, subcmdPadding nl sc (subLongest subs) = some n ∧ n ≤ subLongest subs + tabWidth := by
  have hge := subLongest_ge subs sc h hs
  unfold subcmdPadding
  split
  · exact ⟨0, rfl, Nat.zero_le _⟩
  · obtain ⟨n, e, hn⟩ := checkedSub_of_le (Nat.le_trans hge (Nat.le_add_right _ subcmdPad))
    exact ⟨n, e, hn⟩

/-- the next-line decision never subtracts below zero: `term_w - taken` is only evaluated under `term_w >= taken` -/
theorem forceNextLine_guarded (w hW taken : Nat) (h : forceNextLine (some w) hW taken = true) : taken ≤ w := by
  simp [forceNextLine] at h; exact h.1.1

/-! #### the possible-values column of long help -/

/-- **the `expect("Only called with possible value")` cannot fail and the name padding is
defined**: the column is written only when some visible value has help, and then every
visible value's `longest - display_width(name)` is defined (for any display widths) -/
theorem pv_padding_defined (a : HArg) (h : useLongPv true a = true) :
    (pvLongest a).isSome = true ∧ ∀ pv ∈ a.pvs, pv.hide = false → (pvPadding a pv).isSome = true := by
  unfold pvPadding pvLongest
  cases he : a.pvs.filter (!·.hide) with
  | nil =>
    -- excluded: `useLongPv` found a visible value
    simp only [useLongPv, Bool.true_and, List.any_eq_true, Bool.and_eq_true, Bool.not_eq_true'] at h
    obtain ⟨pv, hpv, hv, _⟩ := h
    have : pv ∈ a.pvs.filter (!·.hide) := List.mem_filter.2 ⟨hpv, by simp [hv]⟩
    rw [he] at this
    cases this
  | cons n ns =>
    refine ⟨rfl, fun pv hpv hh => ?_⟩
    have hm : pv ∈ n :: ns := he ▸ List.mem_filter.2 ⟨hpv, by simp [hh]⟩
    have hle : pv.w ≤ ns.foldl (fun m x => max m x.w) n.w := by
      rcases List.mem_cons.1 hm with rfl | h1
      · exact foldl_max_ge_init _ _ _
      · exact foldl_max_ge_mem (fun (x : PV) => x.w) ns _ pv h1
    obtain ⟨k, hk, _⟩ := checkedSub_of_le hle
    exact congrArg Option.isSome hk

/-- a hidden possible value is not among the names written inline or in the column -/
theorem hidden_pv_not_listed (a : HArg) (n : Bytes) (h : n ∈ visiblePvNames a) : ∃ pv ∈ a.pvs, pv.hide = false ∧ pv.name = n := by
  simp only [visiblePvNames, List.mem_map, List.mem_filter] at h
  obtain ⟨pv, ⟨hm, hh⟩, rfl⟩ := h
  exact ⟨pv, hm, by simpa using hh, rfl⟩

/-! #### the left column names the arg -/

/-- **a listed arg shows its long flag** -/
theorem leftColumn_has_long (a : HArg) (l : Bytes) (h : a.long = some l) : ([45, 45] ++ l) <:+: leftColumn a := by
  unfold leftColumn longPart
  simp only [h]
  exact ⟨sp tabWidth ++ shortPart a ++ (if a.short.isSome then [44, 32] else []), argSuffix a, by simp [List.append_assoc]⟩

/-- **a listed arg shows its short flag** -/
theorem leftColumn_has_short (a : HArg) (s : Bytes) (h : a.short = some s) : (45 :: s) <:+: leftColumn a := by
  unfold leftColumn shortPart
  simp only [h]
  exact ⟨sp tabWidth, longPart a ++ argSuffix a, by simp [List.append_assoc]⟩

theorem infix_intercalate (sep : Bytes) (xs : List Bytes) (x : Bytes) (h : x ∈ xs) : x <:+: intercalateB sep xs := by
  induction xs with
  | nil => simp at h
  | cons y ys ih =>
    cases ys with
    | nil => simp at h; subst h; simp [intercalateB]
    | cons z zs =>
      simp only [intercalateB]
      rcases List.mem_cons.1 h with rfl | h1
      · exact ⟨[], sep ++ intercalateB sep (z :: zs), by simp⟩
      · obtain ⟨p, q, hpq⟩ := ih h1
        exact ⟨y ++ sep ++ p, q, by rw [← hpq]; simp [List.append_assoc]⟩

/-- **a positional or value-taking arg shows each of its value names** (bracketed as `<N>` or `[N]`) -/
theorem leftColumn_has_valname (a : HArg) (n : Bytes) (hv : a.takesValue = true ∨ a.isPositional = true)
    (hn : n ∈ valNamesShown a) : bracket a a.required n <:+: leftColumn a := by
  have h1 : bracket a a.required n <:+: renderArgVal a a.required := by
    unfold renderArgVal
    obtain ⟨p, q, hpq⟩ := infix_intercalate [32] ((valNamesShown a).map (bracket a a.required)) _ (List.mem_map_of_mem hn)
    exact ⟨p, q ++ _, by rw [← List.append_assoc, hpq]⟩
  have h2 : renderArgVal a a.required <:+: argSuffix a := by
    unfold argSuffix
    have : (a.takesValue || a.isPositional) = true := by rcases hv with h | h <;> simp [h]
    simp only [this, ↓reduceIte]
    exact ⟨_, _, rfl⟩
  have h3 : argSuffix a <:+: leftColumn a := ⟨sp tabWidth ++ shortPart a ++ longPart a, [], by simp [leftColumn]⟩
  exact List.IsInfix.trans (List.IsInfix.trans h1 h2) h3

/-- the names shown are never an empty list: there is always something to identify the arg by -/
theorem valNamesShown_ne_nil (a : HArg) : valNamesShown a ≠ [] := by
  unfold valNamesShown
  simp only
  split
  · -- one name, repeated `max _ 1` times
    intro h
    have := congrArg List.length h
    simp only [List.length_replicate, List.length_nil] at this
    omega
  · split
    · exact fun h => nomatch h
    · next he => exact fun h => he (by rw [h]; rfl)

/-! #### non-vacuity and the historical failure -/

/-- a section holding only `-v` with `ArgAction::Count` (display `-v...`): the padding is defined
(F4: before the `else` branch in `write_args` this subtraction underflowed) -/
def countOnly : HArg := { id := [118], short := some [118], isCount := true }
example : shouldShowArg false countOnly = true ∧ alignPadding false false countOnly (longest false [countOnly]) = some 2 := by decide +kernel

/-- what the arithmetic was before the fix (no `else` branch: a short-only flag left `longest` at 2) underflows -/
example : checkedSub (longestInit + alignPadShortOnly) (alignSelfLenOpt countOnly) = none := by decide +kernel

end Clap.C12

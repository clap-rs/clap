/-
C10 / C01 — building a `MissingRequiredArgument` error never fails: on a level that is fit for `usage.rs` (`UsageOk`)
the three collecting passes, `get_required_usage_from` with the matcher and the "smart" usage line reach no `unwrap` /
`expect` / `debug_assert!`, whatever the matches are.
-/
import ClapModel
import ClapProofs.C01Valid
import ClapProofs.C12Usage
import ClapProofs.C12UsageTree
namespace Clap.C10E
open Clap Usage Validator C12U

abbrev Exists' (c : Cmd) (q : Id) : Prop := (c.find q).isSome = true ∨ (c.findGroup q).isSome = true

/-- the request list of any required set whose members exist consists of existing ids -/
theorem unrolledReqs_exist (c : Cmd) (refs : RefsOk c) (rel : Id → Pred × Id → Option Id)
    (hrel : ∀ a p x, rel a p = some x → x = p.2) (required : List Id) (hreq : ∀ r ∈ required, Exists' c r) :
    ∀ q ∈ unrolledReqs c required rel, Exists' c q :=
  unrolledReqs_ex c refs rel hrel required hreq

/-- `write_args` for ANY required set and include list of existing ids -/
theorem argParts_isSome_any (c : Cmd) (u : UInfo) (ok : UsageOk c) (required incls : List Id)
    (hreq : ∀ r ∈ required, Exists' c r) (hi : ∀ q ∈ incls, Exists' c q) (fo : Bool) :
    (argParts c u required incls fo).isSome = true :=
  argParts_total c u ok required incls hreq hi fo

theorem usageWithTitle_isSome_any (c : Cmd) (u : UInfo) (ok : UsageOk c) (required used : List Id)
    (hreq : ∀ r ∈ required, Exists' c r) (hu : ∀ q ∈ used, Exists' c q) :
    (usageWithTitle c u required used).isSome = true :=
  usageWithTitle_total c u ok required used hreq hu

/-- `get_required_usage_from` for ANY required set and include list of existing ids, with any matcher -/
theorem requiredUsageFrom_isSome_any (c : Cmd) (u : UInfo) (ok : UsageOk c) (required incls : List Id)
    (hreq : ∀ r ∈ required, Exists' c r) (hi : ∀ q ∈ incls, Exists' c q) (m : Option ArgMap) (inclLast : Bool) :
    (requiredUsageFrom c u required incls m inclLast).isSome = true :=
  requiredUsageFrom_total c u ok required incls hreq hi m inclLast

/-! ### the collecting passes -/

/-- the list of missing ids can always be computed, and every id in it exists -/
theorem missingRequired_isSome (c : Cmd) (wg : C01.GroupsOk c) (m : ArgMap) (pot : List (Id × List Id)) :
    ∃ l, missingRequired c m pot = some l ∧ ∀ x ∈ l, Exists' c x := by
  obtain ⟨⟨e1, hi1⟩, h1⟩ := Option.isSome_iff_exists.1
    (missingPass1_isSome wg (m := m) (pot := pot) (excl := isExclusivePresent c m) (requiredIds c m) [] 0)
  refine ⟨_, missingRequired_eq_some.2 ⟨e1, hi1, h1, rfl⟩, fun x hx => ?_⟩
  obtain ⟨ext, he, _, hall, _⟩ := missingPass1_some _ _ _ h1
  rw [List.nil_append] at he
  subst he
  rcases List.mem_append.1 hx with hx | hx
  · rcases List.mem_append.1 hx with hx | hx
    · exact (hall x hx).2
    · obtain ⟨a, ha, rfl⟩ := List.mem_map.1 hx
      exact Or.inl (find_isSome_of_mem (List.mem_filter.1 ha).1)
  · split at hx
    · cases hx
    · obtain ⟨p, hp, rfl⟩ := List.mem_map.1 hx
      exact Or.inl (find_isSome_of_mem (positionals_mem c p (List.mem_filter.1 hp).1).1)

/-- the validator's required set (the command's own graph plus what the explicit args and groups require) consists of
existing ids -/
theorem requiredIds_exist (c : Cmd) (refs : RefsOk c) (m : ArgMap) : ∀ r ∈ requiredIds c m, Exists' c r := by
  intro r hr
  unfold requiredIds at hr
  rcases (mem_foldl_insertNew _ _ r).mp hr with h | h
  · exact requiredGraph_exists c refs r h
  · unfold gatherRequires at h
    obtain ⟨p, _, hp⟩ := List.mem_flatMap.mp h
    split at hp
    · rcases unroll_sound c _ _ _ _ _ r hp with h' | ⟨b, hb, q, hq, hqe⟩
      · cases h'
      · split at hqe
        · cases hqe; exact refs.1 b hb q hq
        · cases hqe
    · split at hp
      · next g hg => exact refs.2 g (C01.findGroup_mem_of hg) r hp
      · cases hp

/-- the ids the error usage lines keep (`!arg.is_hide_set()` on a found arg) are args -/
theorem shown_exists {c : Cmd} {q : Id} (h : ((c.find q).map fun a => !a.hide).getD false = true) : Exists' c q := by
  cases hf : c.find q with
  | none => rw [hf] at h; cases h
  | some a => exact Or.inl (by rw [hf]; rfl)

/-- **building the `MissingRequiredArgument` error never fails**: the list of missing ids, the strings of
`get_required_usage_from` and the "smart" usage line are all defined, for any matches -/
theorem missingRequiredError_isSome (c : Cmd) (u : UInfo) (ok : UsageOk c) (m : ArgMap) (pot : List (Id × List Id)) :
    (missingRequiredError c u m pot).isSome = true := by
  obtain ⟨missing, hm, hex⟩ := missingRequired_isSome c ok.groups m pot
  have hreq := requiredIds_exist c ok.refs m
  obtain ⟨reqArgs, hr⟩ := Option.isSome_iff_exists.1
    (requiredUsageFrom_isSome_any c u ok (requiredIds c m) missing hreq hex (some m) true)
  unfold missingRequiredError
  simp only [hm, hr, Option.isSome_map]
  refine usageWithTitle_isSome_any c u ok _ _ hreq fun q hq => ?_
  rcases List.mem_append.mp hq with hq | hq
  · exact shown_exists (List.mem_filter.mp hq).2
  · exact hex q hq

/-! ### the validator's conflict error -/

/-- `unroll_args_in_group` collects args only -/
theorem unrollArgsInGroup_args (c : Cmd) : ∀ (fuel : Nat) (gvec args res : List Id),
    (∀ x ∈ args, (c.find x).isSome = true) → unrollArgsInGroup c fuel gvec args = some res →
    ∀ x ∈ res, (c.find x).isSome = true := by
  intro fuel
  induction fuel with
  | zero =>
    intro gvec args res h hr
    cases gvec <;> (cases hr; exact h)
  | succ fuel ih =>
    intro gvec args res h hr
    cases gvec with
    | nil => cases hr; exact h
    | cons g gs =>
      unfold unrollArgsInGroup at hr
      split at hr
      · cases hr
      · next grp _ =>
        refine ih _ _ res (fun x hx => ?_) hr
        rcases (unrollFold_mem c grp.args (args, [])).1 x hx with h0 | h0
        · exact h x h0
        · exact h0.2

theorem argsInGroup_args (c : Cmd) (g : Id) (ms : List Id) (h : argsInGroup c g = some ms) :
    ∀ x ∈ ms, (c.find x).isSome = true :=
  unrollArgsInGroup_args c _ [g] [] ms (by intro x hx; cases hx) h

/-- the ids `build_conflict_err` lists are args, when the conflicting ids exist -/
theorem conflictOthers_spec (c : Cmd) (wg : C01.GroupsOk c) : ∀ (confs seen : List Id),
    (∀ x ∈ confs, Exists' c x) → (∀ x ∈ seen, (c.find x).isSome = true) →
    ∃ res, conflictOthers c confs seen = some res ∧ ∀ x ∈ res, (c.find x).isSome = true := by
  intro confs
  induction confs with
  | nil => exact fun seen _ hs => ⟨seen, rfl, hs⟩
  | cons cid rest ih =>
    intro seen hc hs
    have hrest := fun x hx => hc x (List.mem_cons_of_mem cid hx)
    unfold conflictOthers
    by_cases hg : (c.findGroup cid).isSome = true
    · -- a group: its unrolled members, all args
      obtain ⟨ids, ha⟩ := Option.isSome_iff_exists.1 (argsInGroup_isSome wg hg)
      simp only [hg, ↓reduceIte, ha]
      exact ih _ hrest fun x hx => ((mem_foldl_insertNew ids seen x).1 hx).elim (hs x) (argsInGroup_args c cid ids ha x)
    · -- not a group, hence an arg
      simp only [hg, Bool.false_eq_true, ↓reduceIte]
      refine ih _ hrest fun x hx => ((mem_foldl_insertNew [cid] seen x).1 hx).elim (hs x) fun hx => ?_
      rw [List.mem_singleton.1 hx]
      exact (hc cid List.mem_cons_self).resolve_right hg

/-- every id `gather_conflicts` returns is a key of the potential-conflict table -/
theorem gatherConflicts_keys (c : Cmd) (pot : List (Id × List Id)) (id : Id) (confs : List Id)
    (h : gatherConflicts c pot id = some confs) : ∀ x ∈ confs, ∃ p ∈ pot, p.1 = x := by
  obtain ⟨own, _, rfl⟩ := Option.map_eq_some_iff.mp h
  intro x hx
  obtain ⟨p, hp, hxp⟩ := List.mem_flatMap.mp hx
  refine ⟨p, hp, ?_⟩
  split at hxp
  · cases hxp
  · rcases List.mem_append.mp hxp with h1 | h1 <;> split at h1
    · exact (List.mem_singleton.1 h1).symm
    · cases h1
    · exact (List.mem_singleton.1 h1).symm
    · cases h1

/-- **building the validator's `ArgumentConflict` error never fails**, when the keys of the potential-conflict table
(the explicitly present ids of the matcher) are args or groups of the level -/
theorem conflictError_isSome (c : Cmd) (u : UInfo) (ok : UsageOk c) (m : ArgMap) (pot : List (Id × List Id))
    (hpot : ∀ p ∈ pot, Exists' c p.1) : (conflictError c u m pot).isSome = true := by
  have hreq := requiredGraph_exists c ok.refs
  unfold conflictError
  simp only
  split
  · rw [Option.isSome_map]
    exact usageWithTitle_isSome_any c u ok _ [] hreq (fun _ hq => nomatch hq)
  · -- the loop over the explicit args
    have key : ∀ (ids : List Id), (∀ id ∈ ids, (c.find id).isSome = true) → (conflictError.go c u m pot ids).isSome = true := by
      intro ids
      induction ids with
      | nil => intro _; rfl
      | cons id rest ih =>
        intro hids
        have hrest := fun x hx => hids x (List.mem_cons_of_mem id hx)
        unfold conflictError.go
        obtain ⟨confs, hg⟩ := Option.isSome_iff_exists.1 (gatherConflicts_isSome c pot id)
        rw [hg]
        cases confs with
        | nil => exact ih hrest
        | cons cf cfs =>
          -- the conflicting ids are keys of the table, so they exist; the ids listed for them are args
          have hconfs : ∀ x ∈ cf :: cfs, Exists' c x := fun x hx => by
            obtain ⟨p, hp, hpx⟩ := gatherConflicts_keys c pot id _ hg x hx
            exact hpx ▸ hpot p hp
          obtain ⟨others, ho, hoa⟩ := conflictOthers_spec c ok.groups (cf :: cfs) [] hconfs (fun _ hx => nomatch hx)
          obtain ⟨former, hfi⟩ := Option.isSome_iff_exists.1 (hids id List.mem_cons_self)
          have hu : (conflictUsage c u m (cf :: cfs)).isSome = true := by
            refine usageWithTitle_isSome_any c u ok _ _ hreq fun q hq => ?_
            rcases List.mem_append.mp hq with hq | hq
            · obtain ⟨a, ha, hqa⟩ := List.mem_flatMap.mp (List.mem_filter.mp hq).1
              obtain ⟨k, _, hk⟩ := List.mem_filterMap.mp ha
              obtain ⟨pr, hpr, rfl⟩ := List.mem_map.mp hqa
              exact ok.refs.1 a (C03.find_mem hk).1 pr hpr
            · exact shown_exists (List.mem_filter.mp (List.mem_filter.mp hq).1).2
          obtain ⟨line, hcu⟩ := Option.isSome_iff_exists.1 hu
          simp only [ho, hfi, hcu, Option.isSome_map]
          refine mapM_isSome _ _ fun i hi => ?_
          obtain ⟨a, hfi2⟩ := Option.isSome_iff_exists.1 (hoa i hi)
          rw [hfi2]
          rfl
    exact key _ fun id hid => (List.mem_filter.mp hid).2

/-- the keys of the potential-conflict table are the explicitly present ids of the matcher -/
theorem potential_keys (c : Cmd) (m : ArgMap) (pot : List (Id × List Id)) (h : potential c m = some pot) :
    ∀ p ∈ pot, p.1 ∈ explicitIds m := by
  cases (potential_eq c m).symm.trans h
  exact fun p hp => (mem_conflictTable.1 hp).1

/-- the conflict error is defined for the validator's own table, when the explicitly present ids of the matcher are
args or groups of the level (the parser's store invariant, C02) -/
theorem conflictError_isSome_matcher (c : Cmd) (u : UInfo) (ok : UsageOk c) (m : ArgMap) (pot : List (Id × List Id))
    (hp : potential c m = some pot) (hm : ∀ id ∈ explicitIds m, Exists' c id) : (conflictError c u m pot).isSome = true :=
  conflictError_isSome c u ok m pot fun p hpp => hm p.1 (potential_keys c m pot hp p hpp)


end Clap.C10E

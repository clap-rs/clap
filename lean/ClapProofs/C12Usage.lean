/-
C12 — the usage line (`ClapModel/Usage.lean`, the model of `output/usage.rs`).

`write_args` is three passes (`groupPass`, `argPass`, `posPass`); each has one theorem saying exactly what it returns
(`groupPass_spec`, `argPass_spec`, `posPass_spec`), and the statements about the line are read off those:

* `argPieces_sound`: every piece of the argument part of a usage line is the display of an argument the
  caller asked for (required, required by a required one, or "used"), of a required group, or of a positional that is
  NOT hidden - there is no shape in `Shown` for an optional hidden argument.
* `required_option_listed`, `visible_positional_listed`: conversely every requested option is written unless a
  listed required group covers it, and every visible positional outside such groups has its slot filled.
* `usageWithTitle_total` / `renderUsage_isSome`: on a level whose references exist (what the configuration checks
  assert) none of the `unwrap`/`expect`/`debug_assert!`s of `usage.rs` is reached, for any required set and any used ids
  that exist.
* `needsOptionsTag_iff`: `[OPTIONS]` is written exactly when some visible, optional, non-built-in option lies outside
  every required group.
-/
import ClapModel
import ClapProofs.Lemmas.UsagePasses
import ClapProofs.C01Valid
import ClapProofs.C03Closure
namespace Clap.C12U
open Clap Usage Validator

/-! ### slots -/

theorem getSlot_of_mem {v : List (Option Bytes)} {s : Bytes} (h : some s ∈ v) : ∃ i, getSlot v i = some s :=
  mem_iff_getSlot.mp h

/-- all filled slots satisfy `P` -/
def SlotsAll (P : Bytes → Prop) (v : List (Option Bytes)) : Prop := ∀ s, some s ∈ v → P s

theorem slotsAll_iff {P : Bytes → Prop} {v : List (Option Bytes)} : SlotsAll P v ↔ ∀ i s, getSlot v i = some s → P s :=
  ⟨fun h i s e => h s (mem_iff_getSlot.mpr ⟨i, e⟩), fun h s hs => let ⟨i, e⟩ := mem_iff_getSlot.mp hs; h i s e⟩

/-! ### what may be written -/

/-- the pieces a usage line may contain for the request list `reqs` -/
inductive Shown (c : Cmd) (u : UInfo) (reqs : List Id) : Bytes → Prop
  | req (a : Arg) (r : Bool) : a ∈ c.args → a.id ∈ reqs → Shown c u reqs (stylized u a r)
  | pos (p : Arg) (r : Bool) : p ∈ c.args → p.isPositional = true → p.hide = false → Shown c u reqs (stylized u p r)
  | esc (s : Bytes) : Shown c u reqs s → Shown c u reqs ([45, 45, 32] ++ s)
  | optEsc (p : Arg) : p ∈ c.args → p.isPositional = true → p.hide = false →
      Shown c u reqs ([91, 45, 45, 32] ++ stylized u p true ++ [93])
  | group (g : Id) (s : Bytes) : g ∈ reqs → formatGroup c u g = some s → Shown c u reqs s

/-- every group string `groupPass` collects is the display of a group of the level -/
theorem groupPass_groups (c : Cmd) (u : UInfo) (skip : List Id → Bool) :
    ∀ (reqs : List Id) (gs : List Bytes) (ms : List Id) (gs' : List Bytes) (ms' : List Id),
    groupPass c u skip reqs gs ms = some (gs', ms') →
    ∀ x ∈ gs', x ∈ gs ∨ ∃ g, (c.findGroup g).isSome = true ∧ formatGroup c u g = some x := by
  intro reqs gs ms gs' ms' h x hx
  exact (((groupPass_spec h).1 x).mp hx).imp_right fun ⟨g, _, l, w⟩ => ⟨g, w.1, w.2.2.1⟩

theorem posNew_shown {c : Cmd} {u : UInfo} {all : List Id} {fo : Bool} {p : Arg} (hp : p ∈ c.args) (hpos : p.isPositional = true)
    (hh : p.hide = false) {cur : Option Bytes} (hc : ∀ s, cur = some s → Shown c u all s) :
    ∀ s, posNew u fo p cur = some s → Shown c u all s := by
  intro s hs
  unfold posNew at hs
  split at hs
  · cases hs
  · split at hs <;> split at hs <;> cases hs
    · exact .esc _ (hc _ rfl)
    · exact hc _ rfl
    · exact .optEsc p hp hpos hh
    · exact .pos p false hp hpos hh

/-! ### `write_args` -/

theorem positionals_mem (c : Cmd) : ∀ p ∈ c.positionals, p ∈ c.args ∧ p.isPositional = true :=
  fun _ hp => List.mem_filter.mp hp

/-- the three collections of `write_args` hold nothing but what was asked for, required groups, and visible positionals -/
theorem argParts_sound (c : Cmd) (u : UInfo) (required incls : List Id) (fo : Bool) (opts groups : List Bytes)
    (pos : List (Option Bytes)) (h : argParts c u required incls fo = some (opts, groups, pos)) :
    let all := unrolledReqs c required relevantStatic ++ incls
    (∀ x ∈ opts, Shown c u all x) ∧ (∀ x ∈ groups, Shown c u all x) ∧ SlotsAll (Shown c u all) pos := by
  intro all
  obtain ⟨members, pos0, hg, ha, hp⟩ := argParts_some h
  obtain ⟨a1, a2⟩ := argPass_spec ha
  have req : ∀ a, WritesArg c members (fun _ => false) all a → Shown c u all (stylized u a (!fo)) :=
    fun a ⟨q, hq, hf, _⟩ => .req a _ (C03.find_mem hf).1 ((C03.find_mem hf).2 ▸ hq)
  refine ⟨fun x hx => ?_, fun x hx => ?_, slotsAll_iff.mpr fun i => ?_⟩
  · obtain ⟨a, w, _, rfl⟩ := ((a1 x).mp hx).resolve_left (nomatch ·); exact req a w
  · obtain ⟨g, hgr, l, w⟩ := (((groupPass_spec hg).1 x).mp hx).resolve_left (nomatch ·); exact .group g x hgr w.2.2.1
  · -- the slot as `argPass` left it holds a requested arg; every rewrite by a visible positional keeps it `Shown`
    rw [posPass_spec hp i]
    refine foldl_inv (I := fun cur => ∀ s, cur = some s → Shown c u all s) (fun p hpm cur hc => ?_) fun s e => ?_
    · obtain ⟨hpp, hl⟩ := List.mem_filter.mp hpm
      obtain ⟨hpa, hpos⟩ := positionals_mem c p hpp
      have hh : p.hide = false := by
        cases hph : p.hide with
        | false => rfl
        | true => simp [looksAt, hph] at hl
      exact posNew_shown hpa hpos hh hc
    · rcases a2 i with ⟨a, w, _, e'⟩ | ⟨_, e'⟩
      · cases e'.symm.trans e; exact req a w
      · rw [e'] at e; cases e

/-- **nothing but what was asked for, required groups, and visible positionals**: every piece of the argument part of
a usage line (`write_args`) has one of the five shapes of `Shown`; there is no shape for an argument that is hidden and
was not asked for -/
theorem argPieces_sound (c : Cmd) (u : UInfo) (required incls : List Id) (fo : Bool) (ps : List Bytes)
    (h : argPieces c u required incls fo = some ps) :
    ∀ x ∈ ps, Shown c u (unrolledReqs c required relevantStatic ++ incls) x := by
  obtain ⟨⟨opts, groups, pos⟩, hp, rfl⟩ := Option.map_eq_some_iff.mp h
  have hs := argParts_sound c u required incls fo opts groups pos hp
  intro x hx
  rcases List.mem_append.mp hx with hx | hx
  · split at hx
    · cases hx
    · exact (List.mem_append.mp hx).elim (hs.1 x) (hs.2.1 x)
  · obtain ⟨o, ho, rfl⟩ := List.mem_filterMap.mp hx
    exact hs.2.2 x ho

/-! ### what must be written -/

/-- **every requested option is written**: an option among the requested ids (required, required by a required arg, or
used) is displayed as required in the help usage line - unless a required group that is itself written covers it -/
theorem required_option_listed (c : Cmd) (u : UInfo) (required incls : List Id) (ps : List Bytes)
    (h : argPieces c u required incls false = some ps)
    (q : Id) (hq : q ∈ unrolledReqs c required relevantStatic ++ incls) (a : Arg) (hf : c.find q = some a)
    (hidx : a.index = none) :
    stylized u a true ∈ ps ∨
    ∃ g ∈ unrolledReqs c required relevantStatic ++ incls, ∃ l s,
      argsInGroup c g = some l ∧ a.id ∈ l ∧ formatGroup c u g = some s ∧ s ∈ ps := by
  obtain ⟨⟨opts, groups, pos⟩, hp, rfl⟩ := Option.map_eq_some_iff.mp h
  obtain ⟨members, pos0, hg, ha, _⟩ := argParts_some hp
  simp only [Bool.false_eq_true, ↓reduceIte]
  cases hm : members.contains a.id with
  | false =>
    exact Or.inl (List.mem_append_left _ (List.mem_append_left _
      (((argPass_spec ha).1 _).mpr (Or.inr ⟨a, ⟨q, hq, hf, by rw [hm]; rfl⟩, hidx, rfl⟩))))
  | true =>
    obtain ⟨g, hgr, l, s, h1, h2, h3, h4⟩ := covered hg (List.contains_iff_mem.mp hm)
    exact Or.inr ⟨g, hgr, l, s, h1, h2, h3, List.mem_append_left _ (List.mem_append_right _ h4)⟩

/-- **every visible positional has its place in the help usage line**: the slot of a positional that is not hidden is
filled (by `argParts_sound` with the display of a requested arg or of a visible positional), unless a required group
that is itself written covers it -/
theorem visible_positional_listed (c : Cmd) (u : UInfo) (required incls : List Id) (opts groups : List Bytes)
    (pos : List (Option Bytes)) (h : argParts c u required incls false = some (opts, groups, pos))
    (p : Arg) (hp : p ∈ c.positionals) (hh : p.hide = false) (i : Nat) (hi : p.index = some i) :
    (getSlot pos i).isSome = true ∨
    ∃ g ∈ unrolledReqs c required relevantStatic ++ incls, ∃ l s,
      argsInGroup c g = some l ∧ p.id ∈ l ∧ formatGroup c u g = some s ∧ s ∈ groups := by
  obtain ⟨members, pos0, hg, _, hpp⟩ := argParts_some h
  cases hm : members.contains p.id with
  | true => exact Or.inr (covered hg (List.contains_iff_mem.mp hm))
  | false =>
    -- `p` is among the positionals that rewrite slot `i`, and every rewrite fills the slot
    left
    rw [posPass_spec hpp i]
    have hmem : p ∈ c.positionals.filter (looksAt members i) :=
      List.mem_filter.mpr ⟨hp, by rw [looksAt, hh, hm, hi]; simp⟩
    generalize c.positionals.filter (looksAt members i) = l at hmem
    obtain ⟨l1, l2, rfl⟩ := List.append_of_mem hmem
    rw [List.foldl_append, List.foldl_cons]
    exact foldl_inv (I := fun cur => cur.isSome = true) (fun _ _ cur _ => posNew_isSome cur) (posNew_isSome _)

/-- a filled slot is a piece of the line -/
theorem slot_is_piece (c : Cmd) (u : UInfo) (required incls : List Id) (fo : Bool) (opts groups : List Bytes)
    (pos : List (Option Bytes)) (h : argParts c u required incls fo = some (opts, groups, pos)) (i : Nat) (s : Bytes)
    (hs : getSlot pos i = some s) : ∃ ps, argPieces c u required incls fo = some ps ∧ s ∈ ps := by
  refine ⟨(if fo then [] else opts ++ groups) ++ pos.filterMap id, by simp [argPieces, h], ?_⟩
  exact List.mem_append_right _ (List.mem_filterMap.mpr ⟨_, mem_iff_getSlot.mpr ⟨i, hs⟩, rfl⟩)

/-- **a group's usage string does not advertise hidden members**: every member it displays is an arg of the level, a
member of the (unrolled) group, and visible -/
theorem groupShown_visible (c : Cmd) (g : Id) (shown : List Arg) (h : groupShown c g = some shown) :
    ∃ ms, argsInGroup c g = some ms ∧ ∀ a ∈ shown, a ∈ c.args ∧ a.id ∈ ms ∧ a.hide = false := by
  unfold groupShown at h
  cases hm : argsInGroup c g with
  | none => rw [hm] at h; cases h
  | some ms =>
    rw [hm] at h
    simp only [Option.map_some, Option.some.injEq] at h
    subst h
    refine ⟨ms, rfl, ?_⟩
    intro a ha
    obtain ⟨ha1, ha2⟩ := List.mem_filter.mp ha
    obtain ⟨i, hi, hf⟩ := List.mem_filterMap.mp ha1
    obtain ⟨h1, h2⟩ := C03.find_mem hf
    exact ⟨h1, h2 ▸ hi, by simpa using ha2⟩

/-! ### `[OPTIONS]` -/

theorem notBuiltinAction (act : Action) :
    (match act with
     | .help | .helpShort | .helpLong | .version => false
     | _ => true) = true ↔
    act ≠ .help ∧ act ≠ .helpShort ∧ act ≠ .helpLong ∧ act ≠ .version := by
  cases act <;> simp

theorem inRequiredGroup_eq_false (c : Cmd) (id : Id) :
    ((c.groupsForArg id).any fun gs => c.groups.any fun g => g.id == gs && g.required) = false ↔
    ∀ g0 ∈ c.groups, g0.args.contains id = true → ∀ g ∈ c.groups, g.id = g0.id → g.required = false := by
  simp only [Cmd.groupsForArg, List.any_eq_false, List.any_eq_true, List.mem_map, List.mem_filter, Bool.and_eq_true,
    beq_iff_eq]
  constructor
  · intro h g0 hg0 hc g hg hid
    cases hr : g.required with
    | false => rfl
    | true => exact absurd ⟨g, hg, hid, hr⟩ (h g0.id ⟨g0, ⟨hg0, hc⟩, rfl⟩)
  · rintro h gs ⟨g0, ⟨hg0, hc⟩, rfl⟩ ⟨g, hg, hid, hr⟩
    rw [h g0 hg0 hc g hg hid] at hr
    cases hr

/-- which options count for `[OPTIONS]` -/
theorem optionCounts_iff (c : Cmd) (f : Arg) :
    optionCounts c f = true ↔
      f.long ≠ some b_help ∧ f.long ≠ some b_version ∧
      f.getAction ≠ .help ∧ f.getAction ≠ .helpShort ∧ f.getAction ≠ .helpLong ∧ f.getAction ≠ .version ∧
      f.hide = false ∧ f.required = false ∧
      ∀ g0 ∈ c.groups, g0.args.contains f.id = true → ∀ g ∈ c.groups, g.id = g0.id → g.required = false := by
  unfold optionCounts
  simp only [Bool.and_eq_true, Bool.not_eq_true', Bool.or_eq_false_iff, beq_eq_false_iff_ne, ne_eq,
    inRequiredGroup_eq_false, and_assoc]
  -- the `match` of `optionCounts` is another auxiliary matcher than that of `notBuiltinAction`: `simp` does not see
  -- that they agree, unification does
  exact and_congr_right' (and_congr_right' (Iff.trans (and_congr_left' (notBuiltinAction f.getAction))
    (by simp only [and_assoc, ne_eq])))

/-- **when `[OPTIONS]` is written**: exactly when some option that is not built in (`--help`/`--version`/help and
version actions), not hidden and not required lies outside every required group -/
theorem needsOptionsTag_iff (c : Cmd) :
    needsOptionsTag c = true ↔
    ∃ f ∈ c.args, f.isPositional = false ∧
      f.long ≠ some b_help ∧ f.long ≠ some b_version ∧
      f.getAction ≠ .help ∧ f.getAction ≠ .helpShort ∧ f.getAction ≠ .helpLong ∧ f.getAction ≠ .version ∧
      f.hide = false ∧ f.required = false ∧
      ∀ g0 ∈ c.groups, g0.args.contains f.id = true → ∀ g ∈ c.groups, g.id = g0.id → g.required = false := by
  simp only [needsOptionsTag, List.any_eq_true, List.mem_filter, optionCounts_iff, Bool.not_eq_true', and_assoc]

/-! ### no `unwrap` / `expect` / `debug_assert!` of `usage.rs` is reached -/

/-- everything the `requires` walk returns was in the accumulator or is the target of some arg's `requires` -/
theorem unroll_sound (c : Cmd) (relevant : Pred × Id → Option Id) : ∀ (fuel : Nat) (rvec processed args : List Id),
    ∀ x ∈ unrollArgRequires c relevant fuel rvec processed args,
      x ∈ args ∨ ∃ a ∈ c.args, ∃ p ∈ a.requires, relevant p = some x := by
  intro fuel rvec processed args x hx
  fun_induction unrollArgRequires c relevant fuel rvec processed args with
  | case1 => exact Or.inl hx
  | case2 => exact Or.inl hx
  | case3 _ _ _ _ _ _ ih => exact ih hx
  | case4 _ _ _ _ _ _ _ _ ih => exact ih hx
  | case5 fuel a rvec processed args hp processed' arg hf rs rvec' args' hfold ih =>
    -- what the walk adds to `args` here are relevant `requires` targets of `arg`
    have e := C03.expandFold_eq (fun r => match c.find r with | some req => !req.requires.isEmpty | none => false) rs (rvec, args)
    simp only at e
    cases e.symm.trans hfold
    refine (ih hx).elim (fun h => (List.mem_append.mp h).imp_right fun h => ?_) Or.inr
    obtain ⟨p, hp, hpe⟩ := List.mem_filterMap.mp h
    exact ⟨arg, (C03.find_mem hf).1, p, hp, hpe⟩

/-- the references the configuration checks assert: `requires` targets of args and of groups exist -/
def RefsOk (c : Cmd) : Prop :=
  (∀ a ∈ c.args, ∀ p ∈ a.requires, (c.find p.2).isSome = true ∨ (c.findGroup p.2).isSome = true) ∧
  (∀ g ∈ c.groups, ∀ r ∈ g.requires, (c.find r).isSome = true ∨ (c.findGroup r).isSome = true)

theorem find_isSome_of_mem {c : Cmd} {a : Arg} (h : a ∈ c.args) : (c.find a.id).isSome = true := by
  unfold Cmd.find
  rw [List.find?_isSome]
  exact ⟨a, h, by simp⟩

/-- the id names an arg or a group of the level -/
abbrev Known (c : Cmd) (q : Id) : Prop := (c.find q).isSome = true ∨ (c.findGroup q).isSome = true

/-- `requiredGraph` holds the ids of the required args, the ids of the required groups, and what those groups require -/
theorem mem_requiredGraph {c : Cmd} {r : Id} (h : r ∈ requiredGraph c) :
    (∃ a ∈ c.args, a.required = true ∧ a.id = r) ∨ ∃ g ∈ c.groups, g.required = true ∧ (g.id = r ∨ r ∈ g.requires) := by
  unfold requiredGraph at h
  refine foldl_inv (I := fun acc => r ∈ acc → _) (fun g hg acc ih hr => ?_) (fun h0 => ?_) h
  · -- a required group adds its id and what it requires
    split at hr
    · next hreq =>
      rcases List.mem_append.mp hr with h1 | h1
      · rcases (mem_foldl_insertNew [g.id] acc r).mp h1 with h2 | h2
        · exact ih h2
        · exact Or.inr ⟨g, hg, hreq, Or.inl (List.mem_singleton.mp h2).symm⟩
      · exact Or.inr ⟨g, hg, hreq, Or.inr h1⟩
    · exact ih hr
  · obtain ⟨a, ha, e⟩ := List.mem_map.mp (((mem_foldl_insertNew _ [] r).mp h0).resolve_left (nomatch ·))
    exact Or.inl ⟨a, (List.mem_filter.mp ha).1, (List.mem_filter.mp ha).2, e⟩

theorem requiredGraph_exists (c : Cmd) (hr : RefsOk c) : ∀ r ∈ requiredGraph c, Known c r := by
  intro r h
  rcases mem_requiredGraph h with ⟨a, ha, _, rfl⟩ | ⟨g, hg, _, rfl | h⟩
  · exact Or.inl (find_isSome_of_mem ha)
  · exact Or.inr (C01.findGroup_mem hg)
  · exact hr.2 g hg r h

theorem relevantStatic_snd (a : Id) (p : Pred × Id) (x : Id) (h : relevantStatic a p = some x) : x = p.2 := by
  unfold relevantStatic at h
  split at h
  · cases h; rfl
  · cases h

/-- the request list of any required set whose members exist consists of existing ids -/
theorem unrolledReqs_ex (c : Cmd) (refs : RefsOk c) (rel : Id → Pred × Id → Option Id)
    (hrel : ∀ a p x, rel a p = some x → x = p.2) (required : List Id) (hreq : ∀ r ∈ required, Known c r) :
    ∀ q ∈ unrolledReqs c required rel, Known c q := by
  intro q hq
  unfold unrolledReqs at hq
  obtain ⟨a, ha, hra⟩ := List.mem_flatMap.mp hq
  rcases List.mem_append.mp hra with h | h
  · rcases unroll_sound c _ _ _ _ _ q h with h | ⟨b, hb, p, hp, hpe⟩
    · cases h
    · cases hrel a p q hpe
      exact refs.1 b hb p hp
  · exact List.mem_singleton.mp h ▸ hreq a ha

/-- the ids the passes of `write_args` / `get_required_usage_from` walk all exist -/
theorem reqs_ex (c : Cmd) (refs : RefsOk c) (rel : Id → Pred × Id → Option Id)
    (hrel : ∀ a p x, rel a p = some x → x = p.2) (required incls : List Id)
    (hreq : ∀ r ∈ required, Known c r) (hi : ∀ q ∈ incls, Known c q) :
    ∀ q ∈ unrolledReqs c required rel ++ incls, Known c q :=
  fun q hq => (List.mem_append.mp hq).elim (unrolledReqs_ex c refs rel hrel required hreq q) (hi q)

theorem unrolledReqs_exists (c : Cmd) (hr : RefsOk c) :
    ∀ r ∈ unrolledReqs c (requiredGraph c) relevantStatic, (c.find r).isSome = true ∨ (c.findGroup r).isSome = true :=
  unrolledReqs_ex c hr _ relevantStatic_snd _ (requiredGraph_exists c hr)

theorem formatGroup_isSome (c : Cmd) (u : UInfo) (wg : C01.GroupsOk c) (g : Id) (hg : (c.findGroup g).isSome = true) :
    (argsInGroup c g).isSome = true ∧ (formatGroup c u g).isSome = true := by
  have h1 : (argsInGroup c g).isSome = true :=
    C01.unrollArgsInGroup_isSome c wg _ [g] [] (by intro x hx; simp only [List.mem_singleton] at hx; exact hx ▸ hg)
  refine ⟨h1, ?_⟩
  simp only [formatGroup, groupShown, Option.isSome_map, h1]

theorem groupPass_isSome (c : Cmd) (u : UInfo) (skip : List Id → Bool) (wg : C01.GroupsOk c) :
    ∀ (reqs : List Id) (gs : List Bytes) (ms : List Id),
    (∀ r ∈ reqs, (c.find r).isSome = true ∨ (c.findGroup r).isSome = true) →
    (groupPass c u skip reqs gs ms).isSome = true := by
  intro reqs gs ms h
  fun_induction groupPass c u skip reqs gs ms with
  | case1 => rfl
  | case2 req rest gs ms _ _ _ _ _ _ ih => exact ih (List.forall_mem_cons.mp h).2
  | case3 req rest gs ms _ _ _ _ _ _ ih => exact ih (List.forall_mem_cons.mp h).2
  | case4 req rest gs ms hg hno =>
    -- a group whose members or display are undefined: excluded by `GroupsOk`
    obtain ⟨h1, h2⟩ := formatGroup_isSome c u wg req hg
    obtain ⟨l, hl⟩ := Option.isSome_iff_exists.mp h1
    obtain ⟨s, hs⟩ := Option.isSome_iff_exists.mp h2
    exact (hno l s hl hs).elim
  | case5 req rest gs ms _ _ ih => exact ih (List.forall_mem_cons.mp h).2
  | case6 req rest gs ms hg hf => exact ((h req List.mem_cons_self).elim hf hg).elim

theorem argPass_isSome (c : Cmd) (u : UInfo) (members : List Id) (r : Bool) (skip : Arg → Bool) :
    ∀ (reqs : List Id) (opts : List Bytes) (pos : List (Option Bytes)),
    (∀ q ∈ reqs, (c.find q).isSome = true ∨ (c.findGroup q).isSome = true) →
    (argPass c u members r skip reqs opts pos).isSome = true := by
  intro reqs opts pos h
  fun_induction argPass c u members r skip reqs opts pos with
  | case1 => rfl
  | case2 _ _ _ _ _ _ _ ih => exact ih (List.forall_mem_cons.mp h).2
  | case3 _ _ _ _ _ _ _ _ _ _ ih => exact ih (List.forall_mem_cons.mp h).2
  | case4 _ _ _ _ _ _ _ _ _ ih => exact ih (List.forall_mem_cons.mp h).2
  | case5 _ _ _ _ _ _ ih => exact ih (List.forall_mem_cons.mp h).2
  | case6 req rest opts pos hf hg =>
    exact ((h req List.mem_cons_self).elim (fun h' => by rw [hf] at h'; cases h') hg).elim

theorem posPass_isSome (u : UInfo) (members : List Id) (fo : Bool) :
    ∀ (ps : List Arg) (pos : List (Option Bytes)), (∀ p ∈ ps, p.index.isSome = true) →
    (posPass u members fo ps pos).isSome = true := by
  intro ps pos h
  fun_induction posPass u members fo ps pos with
  | case1 => rfl
  | case2 _ _ _ _ ih => exact ih (List.forall_mem_cons.mp h).2
  | case3 p rest pos _ hn => have := h p List.mem_cons_self; rw [hn] at this; cases this
  | case4 _ _ _ _ _ _ _ _ _ ih => exact ih (List.forall_mem_cons.mp h).2

/-- the level is fit for `usage.rs`: group members exist, `requires` targets exist, every positional has its index
(`_build_self` numbers them) - what `debug_asserts.rs` and the build guarantee -/
structure UsageOk (c : Cmd) : Prop where
  groups : C01.GroupsOk c
  refs : RefsOk c
  indexed : ∀ p ∈ c.positionals, p.index.isSome = true

/-- `write_args` for any required set and include list of existing ids -/
theorem argParts_total (c : Cmd) (u : UInfo) (ok : UsageOk c) (required incls : List Id)
    (hreq : ∀ r ∈ required, Known c r) (hi : ∀ q ∈ incls, Known c q) (fo : Bool) :
    (argParts c u required incls fo).isSome = true := by
  have hall := reqs_ex c ok.refs _ relevantStatic_snd required incls hreq hi
  obtain ⟨⟨gs, ms⟩, hg⟩ := Option.isSome_iff_exists.mp (groupPass_isSome c u (fun _ => false) ok.groups _ [] [] hall)
  obtain ⟨⟨opts, pos0⟩, ha⟩ := Option.isSome_iff_exists.mp (argPass_isSome c u ms (!fo) (fun _ => false) _ [] [] hall)
  obtain ⟨pos, hp⟩ := Option.isSome_iff_exists.mp (posPass_isSome u ms fo c.positionals pos0 ok.indexed)
  simp only [argParts, hg, ha, hp, Option.isSome_some]

theorem argParts_isSome (c : Cmd) (u : UInfo) (ok : UsageOk c) (incls : List Id)
    (hi : ∀ q ∈ incls, (c.find q).isSome = true ∨ (c.findGroup q).isSome = true) (fo : Bool) :
    (argParts c u (requiredGraph c) incls fo).isSome = true :=
  argParts_total c u ok _ incls (requiredGraph_exists c ok.refs) hi fo

theorem writeArgUsage_total (c : Cmd) (u : UInfo) (ok : UsageOk c) (required used : List Id)
    (hreq : ∀ r ∈ required, Known c r) (hu : ∀ q ∈ used, Known c q) (b : Bool) :
    (writeArgUsage c u required used b).isSome = true := by
  simp only [writeArgUsage, writeArgs, argPieces, Option.isSome_map]
  exact argParts_total c u ok required used hreq hu (!b)

theorem writeSubcommandUsage_total (c : Cmd) (u : UInfo) (required : List Id) (sofar : Bytes)
    (h : (writeArgUsage c u required [] false).isSome = true) :
    (writeSubcommandUsage c u required sofar).isSome = true := by
  simp only [writeSubcommandUsage, apply_ite Option.isSome, Option.isSome_some, Option.isSome_map, h, ite_self]

theorem writeHelpUsage_total (c : Cmd) (u : UInfo) (required : List Id)
    (h : ∀ b, (writeArgUsage c u required [] b).isSome = true) :
    (writeHelpUsage c u required).isSome = true := by
  obtain ⟨x, hx⟩ := Option.isSome_iff_exists.mp (h true)
  simp only [writeHelpUsage, hx, Option.bind_some]
  exact writeSubcommandUsage_total c u required x (h false)

theorem writeSmartUsage_total (c : Cmd) (u : UInfo) (ok : UsageOk c) (required used : List Id)
    (hreq : ∀ r ∈ required, Known c r) (hu : ∀ q ∈ used, Known c q) :
    (writeSmartUsage c u required used).isSome = true := by
  simp only [writeSmartUsage, Option.isSome_map]
  exact writeArgUsage_total c u ok required used hreq hu true

/-- `create_usage_with_title` for any required set and any used ids that exist -/
theorem usageWithTitle_total (c : Cmd) (u : UInfo) (ok : UsageOk c) (required used : List Id)
    (hreq : ∀ r ∈ required, Known c r) (hu : ∀ q ∈ used, Known c q) :
    (usageWithTitle c u required used).isSome = true := by
  simp only [usageWithTitle, usageNoTitle, Option.isSome_map]
  split
  · rfl
  · split
    · exact writeHelpUsage_total c u required (writeArgUsage_total c u ok required [] hreq (by intro q hq; cases hq))
    · exact writeSmartUsage_total c u ok required used hreq hu

/-- **the usage line always renders**: on a level that is fit for it (`UsageOk`) `render_usage()` reaches none of the
`unwrap`s, `expect`s and `debug_assert!`s of `usage.rs`, `format_group` and `unroll_args_in_group` -/
theorem renderUsage_isSome (c : Cmd) (u : UInfo) (ok : UsageOk c) : (renderUsage c u).isSome = true :=
  usageWithTitle_total c u ok _ [] (requiredGraph_exists c ok.refs) (by intro q hq; cases hq)

/-- the "smart" usage line of an error message renders as well, for any list of used ids that exist -/
theorem smartUsage_isSome (c : Cmd) (u : UInfo) (ok : UsageOk c) (used : List Id)
    (hi : ∀ q ∈ used, (c.find q).isSome = true ∨ (c.findGroup q).isSome = true) :
    (writeSmartUsage c u (requiredGraph c) used).isSome = true :=
  writeSmartUsage_total c u ok _ used (requiredGraph_exists c ok.refs) hi


/-! ### the tree version (`flatten_help`) -/

/-- without `flatten_help` (or without a visible subcommand) the tree version is the one-level usage line the theorems
above are about -/
theorem helpUsageTree_plain (fuel : Nat) (c : Cmd) (t : UTree) (bin : Bytes)
    (ho : t.info.overrideUsage = none) (hf : (hasVisibleSubs c t.info && t.flatten) = false) :
    helpUsageTree (fuel + 1) c t bin = writeHelpUsage c t.info (requiredGraph c) := by
  unfold helpUsageTree
  simp only [ho, hf, Bool.false_eq_true, ↓reduceIte]

/-- an `override_usage` is written as it is, at every level, flattened or not -/
theorem helpUsageTree_override (fuel : Nat) (c : Cmd) (t : UTree) (bin o : Bytes) (ho : t.info.overrideUsage = some o) :
    helpUsageTree (fuel + 1) c t bin = some o := by
  unfold helpUsageTree
  simp only [ho]

/-- `render_usage()` of a level without `flatten_help` is `renderUsage` -/
theorem renderUsageTree_plain (fuel : Nat) (c : Cmd) (t : UTree) (bin : Bytes)
    (hf : (hasVisibleSubs c t.info && t.flatten) = false) :
    renderUsageTree (fuel + 1) c t bin = renderUsage c t.info := by
  unfold renderUsageTree renderUsage usageWithTitle usageNoTitle
  cases ho : t.info.overrideUsage with
  | some o => rw [helpUsageTree_override fuel c t bin o ho]
  | none => rw [helpUsageTree_plain fuel c t bin ho hf]; simp

/-! ### non-vacuity: a concrete level meets `UsageOk`, and its usage line is the expected one -/

/-- `prog --out <out> [in]` with a hidden optional flag `-q` and a hidden optional positional `secret` -/
def exCmd : Cmd :=
  Cmd.mk [112] [] none none [] [] {}
    [ { id := [111], long := some [111, 117, 116], required := true, action := some .set, numVals := some Range.single },
      { id := [113], short := some [113], hide := true, action := some .setTrue, numVals := some Range.empty },
      { id := [105], index := some 1, action := some .set, numVals := some Range.single },
      { id := [115], index := some 2, hide := true, action := some .set, numVals := some Range.single } ]
    [] []

def exInfo : UInfo := { usageName := [112] }

example : UsageOk exCmd where
  groups := by intro g hg; cases hg
  refs := ⟨by decide +kernel, by intro g hg; cases hg⟩
  indexed := by decide +kernel

/-- `Usage: p --out <o> [i]`: the required option is written, the hidden flag and the hidden positional are not,
and there is no `[OPTIONS]` since the only optional option is hidden -/
example : renderUsage exCmd exInfo = some
    [85, 115, 97, 103, 101, 58, 32, 112, 32, 45, 45, 111, 117, 116, 32, 60, 111, 62, 32, 91, 105, 93] := by decide +kernel

end Clap.C12U

/-
C01 — building establishes the assertions the totality theorem needs: for a definition that meets
clap's checks on what the user wrote, every level of the eagerly built tree is well-formed.
-/
import ClapProofs.C01Total
import ClapProofs.C11
namespace Clap.C01
open Clap Build

theorem withGroups_args (c : Cmd) (g : List Group) : (c.withGroups g).args = c.args := Cmd.withGroups_args c g
theorem withGroups_subs (c : Cmd) (g : List Group) : (c.withGroups g).subs = c.subs := Cmd.withGroups_subs c g

/-- what clap's debug assertions demand of one level as the user wrote it (the part the parser's totality needs) -/
structure UserLevelOk (c : Cmd) : Prop where
  nodup : (c.args.map (·.id)).Nodup
  noReserved : ∀ a ∈ c.args, a.id ≠ b_help ∧ a.id ≠ b_version
  idxPos : ∀ a ∈ c.args, a.index.isSome = true → a.isPositional = true
  posNoAlias : ∀ a ∈ c.args, a.isPositional = true → a.aliases = []
  groupsOk : ∀ g ∈ c.groups, ∀ n ∈ g.args, (∃ a ∈ c.args, a.id = n) ∨ (∃ g' ∈ c.groups, g'.id = n)

/-- the per-arg part of `UserLevelOk`: what makes an arg fit to be copied into a subcommand as a global -/
def GlobalOk (a : Arg) : Prop :=
  a.id ≠ b_help ∧ a.id ≠ b_version ∧ (a.index.isSome = true → a.isPositional = true) ∧ (a.isPositional = true → a.aliases = [])

theorem UserLevelOk.arg {c : Cmd} (h : UserLevelOk c) {a : Arg} (ha : a ∈ c.args) : GlobalOk a :=
  ⟨(h.noReserved a ha).1, (h.noReserved a ha).2, h.idxPos a ha, h.posNoAlias a ha⟩

/-- the conditions only look at the args and groups of a level -/
theorem UserLevelOk.congr {c d : Cmd} (h : UserLevelOk c) (ha : d.args = c.args) (hg : d.groups = c.groups) : UserLevelOk d :=
  ⟨ha ▸ h.nodup, ha ▸ h.noReserved, ha ▸ h.idxPos, ha ▸ h.posNoAlias, by rw [ha, hg]; exact h.groupsOk⟩

/-- every level of the user's tree meets the per-level conditions -/
def UserTreeOk (c : Cmd) : Prop := ∀ d, Desc c d → UserLevelOk d

theorem UserTreeOk.sub {c sc : Cmd} (h : UserTreeOk c) (hs : sc ∈ c.subs) : UserTreeOk sc :=
  fun d hd => h d (Desc.step c sc d hs hd)

/-! the hypothesis is decidable: `userLevelB` / `userTreeB` -/

theorem userLevelB_sound {c : Cmd} (h : c.userLevelB = true) : UserLevelOk c := by
  unfold Cmd.userLevelB at h
  simp only [Bool.and_eq_true, decide_eq_true_eq, List.all_eq_true, Bool.or_eq_true, bne_iff_ne, ne_eq,
    Bool.not_eq_eq_eq_not, Bool.not_true, List.any_eq_true, beq_iff_eq, List.isEmpty_iff] at h
  obtain ⟨⟨⟨⟨h1, h2⟩, h3⟩, h4⟩, h5⟩ := h
  exact ⟨h1, h2, fun a ha hi => (h3 a ha).resolve_left (by simp [hi]),
    fun a ha hp => (h4 a ha).resolve_left (by simp [hp]), h5⟩

theorem userTreeB_sound : ∀ (fuel : Nat) (c : Cmd), c.userTreeB fuel = true → UserTreeOk c := by
  intro fuel
  induction fuel with
  | zero =>
    intro c h d hd
    unfold Cmd.userTreeB at h
    simp only [Bool.and_eq_true, List.isEmpty_iff] at h
    cases hd with
    | refl => exact userLevelB_sound h.1
    | step _ sc _ hs _ => rw [h.2] at hs; cases hs
  | succ fuel ih =>
    intro c h d hd
    unfold Cmd.userTreeB at h
    simp only [Bool.and_eq_true, List.all_eq_true] at h
    cases hd with
    | refl => exact userLevelB_sound h.1
    | step _ sc _ hs hrest => exact ih sc (h.2 sc hs) d hrest

theorem helpSub_tree : UserTreeOk helpSub := userTreeB_sound 0 helpSub (by decide)

/-- WF and GroupsOk only look at the args and groups of a level -/
theorem wf_congr {c d : Cmd} (ha : d.args = c.args) (hg : d.groups = c.groups) (h : WF c ∧ GroupsOk c) : WF d ∧ GroupsOk d := by
  obtain ⟨⟨h1, h2⟩, h3⟩ := h
  refine ⟨⟨by rw [ha]; exact h1, by rw [ha]; exact h2⟩, ?_⟩
  intro g hgm n hn
  rw [hg] at hgm
  have := h3 g hgm n hn
  unfold Cmd.find Cmd.findGroup at this ⊢
  rw [ha, hg]
  exact this

theorem buildArg_id (a : Arg) : (buildArg a).id = a.id := rfl
theorem buildArg_index (a : Arg) : (buildArg a).index = a.index := rfl
theorem buildArg_long (a : Arg) : (buildArg a).long = a.long := rfl
theorem buildArg_short (a : Arg) : (buildArg a).short = a.short := rfl
theorem buildArg_aliases (a : Arg) : (buildArg a).aliases = a.aliases := rfl

/-- a group as `addToGroups` leaves it: `g` with `xs` appended to its members -/
def grown (g : Group) (xs : List Id) : Group := { g with args := g.args ++ xs }

theorem grown_grown (g : Group) (xs ys : List Id) : grown (grown g xs) ys = grown g (xs ++ ys) := by
  simp [grown, List.append_assoc]

/-- `addToGroups` only appends `argId` to member lists: of the groups it was given, or of new groups that have nothing
else. Every field of a resulting group is read off this by `rfl`. -/
theorem addToGroups_shape (argId : Id) (gl : List Id) (groups : List Group) : ∀ g' ∈ addToGroups groups argId gl,
    ∃ g, (g ∈ groups ∨ ∃ x, g = { id := x, args := [] }) ∧ ∃ xs, (∀ n ∈ xs, n = argId) ∧ g' = grown g xs := by
  fun_induction addToGroups groups argId gl with
  | case1 groups => exact fun g' h => ⟨g', Or.inl h, [], fun _ h => (nomatch h), by simp [grown]⟩
  | case2 groups x gs groups' ih =>
    intro g' hg'
    obtain ⟨g, hg, xs, hxs, rfl⟩ := ih g' hg'
    have hxs' : ∀ n ∈ [argId] ++ xs, n = argId := by simpa using hxs
    rcases hg with hg | hg
    · simp only [groups'] at hg
      split at hg
      · obtain ⟨g0, hg0, rfl⟩ := List.mem_map.mp hg
        split
        · exact ⟨g0, Or.inl hg0, [argId] ++ xs, hxs', grown_grown g0 [argId] xs⟩
        · exact ⟨g0, Or.inl hg0, xs, hxs, rfl⟩
      · rcases List.mem_append.mp hg with hg | hg
        · exact ⟨g, Or.inl hg, xs, hxs, rfl⟩
        · cases List.mem_singleton.mp hg
          exact ⟨{ id := x, args := [] }, Or.inr ⟨x, rfl⟩, [argId] ++ xs, hxs', grown_grown { id := x, args := [] } [argId] xs⟩
    · exact ⟨g, Or.inr hg, xs, hxs, rfl⟩

theorem addToGroups_keeps (argId : Id) (gl : List Id) (groups : List Group) :
    ∀ g ∈ groups, ∃ g' ∈ addToGroups groups argId gl, g'.id = g.id := by
  fun_induction addToGroups groups argId gl with
  | case1 groups => exact fun g hg => ⟨g, hg, rfl⟩
  | case2 groups x gs groups' ih =>
    intro g hg
    have hstep : ∃ g1 ∈ groups', g1.id = g.id := by
      simp only [groups']
      split
      · exact ⟨_, List.mem_map_of_mem hg, by split <;> rfl⟩
      · exact ⟨g, List.mem_append_left _ hg, rfl⟩
    obtain ⟨g1, hg1, h1⟩ := hstep
    obtain ⟨g', hg', h'⟩ := ih g1 hg1
    exact ⟨g', hg', h'.trans h1⟩

/-- every built arg is `Arg::_build` of an arg of the list with at most the index filled in - and it is filled in for
every positional. Every field of a built arg is read off this by `rfl`. -/
theorem buildArgs_shape (as : List Arg) (pc : Nat) (gs : List Group) : ∀ b ∈ (buildArgs as pc gs).1,
    ∃ a ∈ as, ∃ i, b = { buildArg a with index := i } ∧ (i = a.index ∨ a.isPositional = true) ∧
      (a.isPositional = true → i.isSome = true) := by
  fun_induction buildArgs as pc gs with
  | case1 => exact fun _ h => nomatch h
  | case2 a as pc gs gs1 a1 a2 pc2 hstep rest gs2 hrec ih =>
    intro b hb
    rw [hrec] at ih
    rcases List.mem_cons.mp hb with rfl | hb
    · refine ⟨a, List.mem_cons_self, b.index, ?_⟩
      split at hstep
      · next hc =>
        cases hstep
        simp only [Bool.and_eq_true] at hc
        exact ⟨rfl, Or.inr hc.1, fun _ => rfl⟩
      · next hc =>
        cases hstep
        refine ⟨rfl, Or.inl rfl, fun hp => ?_⟩
        cases hi : (buildArg a).index with
        | some i => rfl
        | none => exact absurd (by rw [show a1.isPositional = true from hp, show a1.index = none from hi]; rfl) hc
    · obtain ⟨a', ha', r⟩ := ih b hb
      exact ⟨a', List.mem_cons_of_mem _ ha', r⟩

theorem buildArgs_ids (as : List Arg) (pc : Nat) (gs : List Group) : (buildArgs as pc gs).1.map (·.id) = as.map (·.id) := by
  fun_induction buildArgs as pc gs with
  | case1 => rfl
  | case2 a as pc gs gs1 a1 a2 pc2 hstep rest gs2 hrec ih =>
    rw [hrec] at ih
    have : a2.id = a.id := by split at hstep <;> cases hstep <;> rfl
    simp [this, ih]

/-- the groups after the loop: those given and new ones, grown by ids of the args only -/
theorem buildArgs_groups (as : List Arg) (pc : Nat) (gs : List Group) :
    (∀ g ∈ gs, ∃ g' ∈ (buildArgs as pc gs).2, g'.id = g.id) ∧
    ∀ g' ∈ (buildArgs as pc gs).2, ∃ g, (g ∈ gs ∨ ∃ x, g = { id := x, args := [] }) ∧
      ∃ xs, (∀ n ∈ xs, ∃ a ∈ as, a.id = n) ∧ g' = grown g xs := by
  fun_induction buildArgs as pc gs with
  | case1 pc gs => exact ⟨fun g hg => ⟨g, hg, rfl⟩, fun g' h => ⟨g', Or.inl h, [], fun _ h => (nomatch h), by simp [grown]⟩⟩
  | case2 a as pc gs gs1 a1 a2 pc2 hstep rest gs2 hrec ih =>
    rw [hrec] at ih
    obtain ⟨ihK, ihS⟩ := ih
    constructor
    · intro g hg
      obtain ⟨g1, hg1, h1⟩ := addToGroups_keeps a.id a.groups gs g hg
      obtain ⟨g2, hg2, h2⟩ := ihK g1 hg1
      exact ⟨g2, hg2, h2.trans h1⟩
    · intro g' hg'
      obtain ⟨g1, hg1, xs, hxs, rfl⟩ := ihS g' hg'
      have hxs' : ∀ n ∈ xs, ∃ a' ∈ a :: as, a'.id = n := fun n hn =>
        (hxs n hn).imp fun a' h => ⟨List.mem_cons_of_mem _ h.1, h.2⟩
      rcases hg1 with hg1 | hnew
      · obtain ⟨g, hg, ys, hys, rfl⟩ := addToGroups_shape a.id a.groups gs g1 hg1
        refine ⟨g, hg, ys ++ xs, fun n hn => ?_, grown_grown g ys xs⟩
        rcases List.mem_append.mp hn with h | h
        · exact ⟨a, List.mem_cons_self, (hys n h).symm⟩
        · exact hxs' n h
      · exact ⟨g1, Or.inr hnew, xs, hxs', rfl⟩

theorem find_isSome_of_id {c : Cmd} {n : Id} (h : n ∈ c.args.map (·.id)) : (c.find n).isSome = true := by
  unfold Cmd.find
  rw [List.find?_isSome]
  obtain ⟨a, ha, rfl⟩ := List.mem_map.1 h
  exact ⟨a, ha, by simp⟩

theorem findGroup_isSome_of_id {c : Cmd} {n : Id} (h : ∃ g ∈ c.groups, g.id = n) : (c.findGroup n).isSome = true := by
  unfold Cmd.findGroup
  rw [List.find?_isSome]
  obtain ⟨g, hg, rfl⟩ := h
  exact ⟨g, hg, by simp⟩

/-- the args `_check_help_and_version` hands to the per-arg loop: the user's, then possibly `help`, `version` -/
def args2 (c : Cmd) : List Arg :=
  let st0 := c.settings
  let args1 := if !st0.disableHelpFlag then c.args ++ [helpArg] else c.args
  if !(st0.disableVersionFlag || !st0.hasVersion) then args1 ++ [versionArg] else args1

/-- the command-level switches only set three flags; every other field is read off this by `rfl` -/
theorem cmdLevelArg_shape (sw : LevelSwitches) (a : Arg) :
    ∃ h n t, cmdLevelArg sw a = { a with allowHyphen := h, allowNegative := n, trailingVarArg := t } := by
  unfold cmdLevelArg
  split
  · exact ⟨_, _, _, rfl⟩
  · exact ⟨_, _, _, rfl⟩

/-- the command-level hyphen switches touch nothing the assertions or the parser's lookups read -/
theorem cmdLevelArg_fields (st : LevelSwitches) (a : Arg) :
    (cmdLevelArg st a).id = a.id ∧ (cmdLevelArg st a).long = a.long ∧ (cmdLevelArg st a).short = a.short ∧
    (cmdLevelArg st a).aliases = a.aliases ∧ (cmdLevelArg st a).index = a.index := by
  obtain ⟨h, n, t, e⟩ := cmdLevelArg_shape st a
  rw [e]
  exact ⟨rfl, rfl, rfl, rfl, rfl⟩

/-- one level of `_build_self`, field by field; the proofs about it read its fields off this equation -/
theorem buildSelfCore_eq (c : Cmd) : ∃ (st : Settings) (sw : LevelSwitches) (inh : Cmd → Settings) (f : Bool),
    buildSelfCore c =
      (((c.withSettings st).withArgs ((buildArgs (args2 c) 1 c.groups).1.map (cmdLevelArg sw))).withGroups
        (buildArgs (args2 c) 1 c.groups).2).withSubs
        ((if !(c.settings.disableHelpSubcommand || !c.hasSubcommands) then c.subs ++ [helpSub] else c.subs).map
          fun sc => propagateGlobals ((args2 c).filter (·.global)) f (sc.withSettings (inh sc))) := by
  unfold buildSelfCore args2
  simp only [List.map_map]
  generalize buildArgs _ 1 c.groups = r
  obtain ⟨a3, g3⟩ := r
  exact ⟨_, _, _, _, rfl⟩

theorem buildSelfCore_args (c : Cmd) : ∃ st, (buildSelfCore c).args = ((buildArgs (args2 c) 1 c.groups).1).map (cmdLevelArg st) := by
  obtain ⟨_, sw, _, _, e⟩ := buildSelfCore_eq c
  exact ⟨sw, by rw [e]; simp⟩

theorem buildSelfCore_groups (c : Cmd) : (buildSelfCore c).groups = (buildArgs (args2 c) 1 c.groups).2 := by
  obtain ⟨_, _, _, _, e⟩ := buildSelfCore_eq c
  rw [e]; simp

/-- what `_check_help_and_version` adds -/
def autoArgs (c : Cmd) : List Arg :=
  (if !c.settings.disableHelpFlag then [helpArg] else []) ++
    (if !(c.settings.disableVersionFlag || !c.settings.hasVersion) then [versionArg] else [])

theorem args2_eq (c : Cmd) : args2 c = c.args ++ autoArgs c := by
  unfold args2 autoArgs
  by_cases h1 : (!c.settings.disableHelpFlag) = true <;>
    by_cases h2 : (!(c.settings.disableVersionFlag || !c.settings.hasVersion)) = true <;> simp [h1, h2]

theorem autoArgs_mem {c : Cmd} {a : Arg} (h : a ∈ autoArgs c) : a = helpArg ∨ a = versionArg := by
  unfold autoArgs at h
  rcases List.mem_append.1 h with h | h <;> split at h <;> simp at h
  · exact Or.inl h
  · exact Or.inr h

theorem args2_mem (c : Cmd) (a : Arg) (h : a ∈ args2 c) : a ∈ c.args ∨ a = helpArg ∨ a = versionArg := by
  rw [args2_eq] at h
  exact (List.mem_append.1 h).imp_right autoArgs_mem

theorem args2_sub (c : Cmd) (a : Arg) (h : a ∈ c.args) : a ∈ args2 c := by
  rw [args2_eq]
  exact List.mem_append_left _ h

theorem args2_nodup (c : Cmd) (h : UserLevelOk c) : ((args2 c).map (·.id)).Nodup := by
  rw [args2_eq, List.map_append, List.nodup_append]
  refine ⟨h.nodup, ?_, ?_⟩
  · unfold autoArgs
    split <;> split <;> decide
  · -- the user's ids are not the reserved ones
    intro x hx y hy e
    obtain ⟨a, ha, rfl⟩ := List.mem_map.1 hx
    obtain ⟨b, hb, rfl⟩ := List.mem_map.1 hy
    rcases autoArgs_mem hb with rfl | rfl
    · exact (h.noReserved a ha).1 e
    · exact (h.noReserved a ha).2 e

/-- the two per-arg conditions hold of the generated `help` and `version` too: neither has an index or is positional -/
theorem args2_ok (c : Cmd) (h : UserLevelOk c) : ∀ a ∈ args2 c,
    (a.index.isSome = true → a.isPositional = true) ∧ (a.isPositional = true → a.aliases = []) := by
  intro a ha
  rw [args2_eq] at ha
  rcases List.mem_append.1 ha with ha | ha
  · exact ⟨h.idxPos a ha, h.posNoAlias a ha⟩
  · rcases autoArgs_mem ha with rfl | rfl
    · decide
    · decide

/-- **one level of `_build_self` establishes the assertions** -/
theorem buildSelfCore_level (c : Cmd) (h : UserLevelOk c) : WF (buildSelfCore c) ∧ GroupsOk (buildSelfCore c) := by
  obtain ⟨st, hA⟩ := buildSelfCore_args c
  have hG := buildSelfCore_groups c
  have hids : (buildSelfCore c).args.map (·.id) = (args2 c).map (·.id) := by
    rw [hA, List.map_map, ← buildArgs_ids (args2 c) 1 c.groups]
    apply List.map_congr_left
    intro a _
    exact (cmdLevelArg_fields st a).1
  refine ⟨⟨by rw [hids]; exact args2_nodup c h, ?_⟩, ?_⟩
  · intro b hb hidx
    rw [hA] at hb
    obtain ⟨b0, hb0, rfl⟩ := List.mem_map.1 hb
    obtain ⟨a, ha, i, rfl, hi, _⟩ := buildArgs_shape _ _ _ b0 hb0
    obtain ⟨_, _, _, e⟩ := cmdLevelArg_shape st { buildArg a with index := i }
    rw [e] at hidx ⊢
    -- an arg with an index is a positional: the user's by `idxPos`, the others got theirs for being positional
    have hpos : a.isPositional = true := hi.elim (fun e => (args2_ok c h a ha).1 (e ▸ hidx)) id
    refine ⟨?_, (args2_ok c h a ha).2 hpos⟩
    simp only [Arg.isPositional, Bool.and_eq_true, Option.isNone_iff_eq_none] at hpos
    exact hpos.1
  · intro g' hg' n hn
    rw [hG] at hg'
    obtain ⟨g, hg, xs, hxs, rfl⟩ := (buildArgs_groups (args2 c) 1 c.groups).2 g' hg'
    -- a member is the id of an arg of the level, or was a member as the user wrote the group
    have hmem : (∃ a ∈ args2 c, a.id = n) ∨ ∃ g0 ∈ c.groups, g0.id = n := by
      rcases List.mem_append.1 hn with hn | hn
      · rcases hg with hg | ⟨x, rfl⟩
        · exact (h.groupsOk g hg n hn).imp_left fun ⟨a, ha, e⟩ => ⟨a, args2_sub c a ha, e⟩
        · cases hn
      · exact Or.inl (hxs n hn)
    rcases hmem with ⟨a, ha, rfl⟩ | ⟨g0, hg0, rfl⟩
    · exact Or.inl (find_isSome_of_id (by rw [hids]; exact List.mem_map_of_mem ha))
    · obtain ⟨g1, hg1, hid1⟩ := (buildArgs_groups (args2 c) 1 c.groups).1 g0 hg0
      exact Or.inr (findGroup_isSome_of_id ⟨g1, by rw [hG]; exact hg1, hid1⟩)

/-- a level that is not (re)built - already marked `Built` - is well-formed as the user wrote it -/
theorem user_level_wf (c : Cmd) (h : UserLevelOk c) : WF c ∧ GroupsOk c := by
  refine ⟨⟨h.nodup, ?_⟩, ?_⟩
  · intro a ha hidx
    have hpos := h.idxPos a ha hidx
    refine ⟨?_, h.posNoAlias a ha hpos⟩
    simp only [Arg.isPositional, Bool.and_eq_true, Option.isNone_iff_eq_none] at hpos
    exact hpos.1
  · intro g hg n hn
    rcases h.groupsOk g hg n hn with ⟨a, ha, hid⟩ | hgr
    · exact Or.inl (find_isSome_of_id (hid ▸ List.mem_map_of_mem ha))
    · exact Or.inr (findGroup_isSome_of_id hgr)

theorem buildSelf_level (c : Cmd) (h : UserLevelOk c) : WF (buildSelf c) ∧ GroupsOk (buildSelf c) := by
  unfold buildSelf
  split
  · exact user_level_wf c h
  · exact buildSelfCore_level c h

/-! the subcommands a built level hands on -/

def addGlobal (acc : List Arg) (a : Arg) : List Arg := if acc.any (fun x => x.id == a.id) then acc else acc ++ [a]

theorem foldl_addGlobal_spec (globals init : List Arg) (h : (init.map (·.id)).Nodup) :
    ((globals.foldl addGlobal init).map (·.id)).Nodup ∧
    (∀ x ∈ init, x ∈ globals.foldl addGlobal init) ∧
    (∀ x ∈ globals.foldl addGlobal init, x ∈ init ∨ x ∈ globals) := by
  refine foldl_inv (I := fun acc => (acc.map (·.id)).Nodup ∧ (∀ x ∈ init, x ∈ acc) ∧ ∀ x ∈ acc, x ∈ init ∨ x ∈ globals)
    ?_ ⟨h, fun _ hx => hx, fun _ hx => Or.inl hx⟩
  intro g hg acc ⟨h1, h2, h3⟩
  unfold addGlobal
  split
  · exact ⟨h1, h2, h3⟩
  · next hany =>
    refine ⟨?_, fun x hx => List.mem_append_left _ (h2 x hx), ?_⟩
    · rw [List.map_append, List.nodup_append]
      refine ⟨h1, by simp, ?_⟩
      intro x hx y hy e
      obtain ⟨a, ha, rfl⟩ := List.mem_map.1 hx
      rw [List.map_singleton, List.mem_singleton] at hy
      exact hany (List.any_eq_true.2 ⟨a, ha, by simp [e, hy]⟩)
    · intro x hx
      rcases List.mem_append.1 hx with hx | hx
      · exact h3 x hx
      · exact Or.inr (List.mem_singleton.1 hx ▸ hg)

theorem propagate_level (globals : List Arg) (hg : ∀ a ∈ globals, GlobalOk a) (f : Bool) (sc : Cmd) (h : UserLevelOk sc) :
    UserLevelOk (propagateGlobals globals f sc) := by
  unfold propagateGlobals
  split
  · exact h
  · obtain ⟨r1, r2, r3⟩ := foldl_addGlobal_spec globals sc.args h.nodup
    -- every arg of the new level is one of the old level or a global
    have hall : ∀ a ∈ globals.foldl addGlobal sc.args, GlobalOk a := fun a ha => (r3 a ha).elim h.arg (hg a)
    refine ⟨by rw [Cmd.withArgs_args]; exact r1, ?_, ?_, ?_, ?_⟩
    · intro a ha
      rw [Cmd.withArgs_args] at ha
      exact ⟨(hall a ha).1, (hall a ha).2.1⟩
    · intro a ha
      rw [Cmd.withArgs_args] at ha
      exact (hall a ha).2.2.1
    · intro a ha
      rw [Cmd.withArgs_args] at ha
      exact (hall a ha).2.2.2
    · intro g hgm n hn
      rw [Cmd.withArgs_groups] at hgm ⊢
      rw [Cmd.withArgs_args]
      exact (h.groupsOk g hgm n hn).imp_left fun ⟨a, ha, hid⟩ => ⟨a, r2 a ha, hid⟩

/-- a tree whose root level was changed only in args and settings (subcommands kept) is still ok if the new root is -/
theorem tree_of_root {c c' : Cmd} (h : UserTreeOk c) (hsubs : c'.subs = c.subs) (hroot : UserLevelOk c') : UserTreeOk c' := by
  intro d hd
  cases hd with
  | refl => exact hroot
  | step _ sc _ hs hrest => exact h d (Desc.step c sc d (hsubs ▸ hs) hrest)

theorem propagateGlobals_subs (globals : List Arg) (f : Bool) (sc : Cmd) : (propagateGlobals globals f sc).subs = sc.subs := by
  unfold propagateGlobals
  split
  · rfl
  · exact Cmd.withArgs_subs _ _

theorem withSettings_level {c : Cmd} (s : Settings) (h : UserLevelOk c) : UserLevelOk (c.withSettings s) :=
  h.congr (Cmd.withSettings_args c s) (Cmd.withSettings_groups c s)

/-- the subcommands a freshly built level hands on: the user's and possibly the generated `help` (only when there are
subcommands), each with inherited settings and the level's global args copied in -/
theorem buildSelfCore_subs (c : Cmd) : ∀ sc ∈ (buildSelfCore c).subs, ∃ sc0 st f,
    (sc0 ∈ c.subs ∨ (sc0 = helpSub ∧ c.hasSubcommands = true)) ∧
    sc = propagateGlobals ((args2 c).filter (·.global)) f (sc0.withSettings st) := by
  intro sc hsc
  obtain ⟨_, _, inh, f, e⟩ := buildSelfCore_eq c
  rw [e, Cmd.withSubs_subs, List.mem_map] at hsc
  obtain ⟨sc0, hsc0, rfl⟩ := hsc
  refine ⟨sc0, _, _, ?_, rfl⟩
  split at hsc0
  · next hflag =>
    rcases List.mem_append.1 hsc0 with h1 | h1
    · exact Or.inl h1
    · simp only [Bool.not_eq_true', Bool.or_eq_false_iff, Bool.not_eq_false'] at hflag
      exact Or.inr ⟨List.mem_singleton.1 h1, by simpa using hflag.2⟩
  · exact Or.inl hsc0

/-- the subcommands of a built level are again trees the builder can be applied to -/
theorem buildSelf_subs_ok (c : Cmd) (h : UserTreeOk c) : ∀ sc ∈ (buildSelf c).subs, UserTreeOk sc := by
  unfold buildSelf
  split
  · intro sc hsc; exact h.sub hsc
  · intro sc hsc
    have hroot := h c (Desc.refl c)
    obtain ⟨sc0, st, f, hsc0, rfl⟩ := buildSelfCore_subs c sc hsc
    have h0 : UserTreeOk sc0 := hsc0.elim h.sub (fun e => e.1 ▸ helpSub_tree)
    -- the globals handed down are user args of this level
    have hglob : ∀ a ∈ (args2 c).filter (·.global), GlobalOk a := by
      intro a ha
      obtain ⟨ha1, ha2⟩ := List.mem_filter.1 ha
      rcases args2_mem c a ha1 with h2 | h2 | h2
      · exact hroot.arg h2
      · subst h2; simp [helpArg] at ha2
      · subst h2; simp [versionArg] at ha2
    have hl := withSettings_level st (h0 sc0 (Desc.refl sc0))
    exact tree_of_root (tree_of_root h0 (Cmd.withSettings_subs sc0 st) hl) (propagateGlobals_subs _ _ _)
      (propagate_level _ hglob _ _ hl)

/-- **building establishes the assertions, at every level and depth**: the eagerly built tree of a definition that
meets clap's checks on what the user wrote is well-formed in the sense the totality theorem needs -/
theorem buildAll_wf : ∀ (n : Nat) (c : Cmd), UserTreeOk c → WFTree (buildAll n c) := by
  intro n
  induction n with
  | zero =>
    intro c h d hd
    exact user_level_wf d (h d hd)
  | succ n ih =>
    intro c h d hd
    unfold buildAll at hd
    simp only at hd
    cases hd with
    | refl =>
      exact wf_congr (by simp) (by simp) (buildSelf_level c (h c (Desc.refl c)))
    | step _ sc _ hs hrest =>
      simp only [Cmd.withSubs_subs, List.mem_map] at hs
      obtain ⟨sc1, hsc1, rfl⟩ := hs
      exact ih sc1 (buildSelf_subs_ok c h sc1 hsc1) d hrest

/-! #### building does not deepen the tree -/

theorem height_pos (c : Cmd) : 1 ≤ c.height := by cases c; simp [Cmd.height]

theorem height_eq (c : Cmd) : c.height = 1 + Cmd.heightList c.subs := by cases c; simp [Cmd.height, Cmd.subs]

theorem heightList_le_of_forall (l : List Cmd) (k : Nat) (h : ∀ x ∈ l, x.height ≤ k) : Cmd.heightList l ≤ k := by
  induction l with
  | nil => simp [Cmd.heightList]
  | cons x xs ih =>
    simp only [Cmd.heightList]
    have h1 := h x List.mem_cons_self
    have h2 := ih (fun y hy => h y (List.mem_cons_of_mem _ hy))
    omega

theorem height_of_subs_eq {c d : Cmd} (h : d.subs = c.subs) : d.height = c.height := by
  rw [height_eq d, height_eq c, h]

theorem buildSelf_subs_height (c : Cmd) : ∀ sc ∈ (buildSelf c).subs, sc.height ≤ Cmd.heightList c.subs := by
  unfold buildSelf
  split
  · intro sc hsc; exact heightList_ge c.subs hsc
  · intro sc hsc
    obtain ⟨sc0, st, f, hsc0, rfl⟩ := buildSelfCore_subs c sc hsc
    rw [height_of_subs_eq ((propagateGlobals_subs _ _ _).trans (Cmd.withSettings_subs sc0 st))]
    rcases hsc0 with h1 | ⟨rfl, hsub⟩
    · exact heightList_ge c.subs h1
    · -- the generated `help` leaf: only added when there are subcommands, each of height >= 1
      unfold Cmd.hasSubcommands at hsub
      cases hcs : c.subs with
      | nil => simp [hcs] at hsub
      | cons x xs =>
        have : x.height ≤ Cmd.heightList (x :: xs) := heightList_ge (x :: xs) List.mem_cons_self
        have hx := height_pos x
        have hhs : helpSub.height = 1 := by decide
        omega

theorem buildAll_height : ∀ (n : Nat) (c : Cmd), (buildAll n c).height ≤ c.height := by
  intro n
  induction n with
  | zero => intro c; exact Nat.le_refl _
  | succ n ih =>
    intro c
    unfold buildAll
    simp only
    rw [height_eq (Cmd.withSubs _ _), height_eq c, Cmd.withSubs_subs]
    apply Nat.add_le_add_left
    apply heightList_le_of_forall
    intro x hx
    obtain ⟨sc, hsc, rfl⟩ := List.mem_map.1 hx
    exact Nat.le_trans (ih sc) (buildSelf_subs_height c sc hsc)

/-- **totality, stated entirely on the user's definition**: if every level of the definition meets clap's checks
(`UserTreeOk`) and the fuel covers its depth, `try_get_matches_from` returns matches or a clap error for every argv -/
theorem tryGetMatchesFrom_total_user (similar : Bytes → Bytes → Bool) (depth : Nat) (c : Cmd) (argv : List Bytes)
    (hh : c.height ≤ depth + 3) (hu : UserTreeOk c) :
    ∃ r, Command.tryGetMatchesFrom similar depth c argv = some r ∧ ∀ e, r = .error e → isPanic e = false := by
  unfold Command.tryGetMatchesFrom
  exact doParse_total similar (depth + 2) _ (Nat.le_trans (buildAll_height _ c) hh) (buildAll_wf _ c hu) _

/-- **totality from a check on the definition as written**: `userTreeB` is evaluated by the driver on every
command the harness generates, before any build -/
theorem tryGetMatchesFrom_total_checked (similar : Bytes → Bytes → Bool) (depth : Nat) (c : Cmd) (argv : List Bytes)
    (hh : c.height ≤ depth + 3) (hu : c.userTreeB (depth + 3) = true) :
    ∃ r, Command.tryGetMatchesFrom similar depth c argv = some r ∧ ∀ e, r = .error e → isPanic e = false :=
  tryGetMatchesFrom_total_user similar depth c argv hh (userTreeB_sound _ c hu)

/-- the hypotheses are met by a command with an option in a group, a multi-valued positional and a flag subcommand -/
example :
    let sub : Cmd := .mk [115] [] (some [83]) none [] [] {} [{ id := [120], short := some [120] }] [] []
    let c : Cmd := .mk [112] [] none none [] [] {}
      [{ id := [111], long := some [111] }, { id := [102], index := some 1, numVals := some ⟨1, none⟩ }]
      [{ id := [103], args := [[111]] }] [sub]
    c.userTreeB 3 = true ∧ c.height ≤ 3 := by
  decide

end Clap.C01

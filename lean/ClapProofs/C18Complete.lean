/-
C18, second part: what survives `finish` still represents every offered item; completeness for short-flag clusters;
`--opt=value` candidates extend the word and name a possible value of the option.
-/
import ClapProofs.C18
import ClapProofs.C14
namespace Clap.C18
open Clap Engine

/-! #### `finish` keeps a representative of every visible item -/

/-- the id list of the fold is the list of ids of the kept candidates -/
def FinInv (acc : List Cand × List Bytes) : Prop := ∀ i ∈ acc.2, ∃ y ∈ acc.1, y.id = some i

theorem finStep_inv (acc : List Cand × List Bytes) (cd : Cand) (h : FinInv acc) : FinInv (finStep acc cd) := by
  unfold finStep
  cases hid : cd.id with
  | none =>
    intro i hi
    obtain ⟨y, hy, hyi⟩ := h i hi
    exact ⟨y, List.mem_append_left _ hy, hyi⟩
  | some j =>
    simp only
    split
    · exact h
    · intro i hi
      rcases List.mem_append.1 hi with hi | hi
      · obtain ⟨y, hy, hyi⟩ := h i hi
        exact ⟨y, List.mem_append_left _ hy, hyi⟩
      · simp at hi; subst hi
        exact ⟨cd, by simp, hid⟩

theorem finStep_mono (acc : List Cand × List Bytes) (cd : Cand) : ∀ y ∈ acc.1, y ∈ (finStep acc cd).1 := by
  intro y hy
  unfold finStep
  cases cd.id with
  | none => exact List.mem_append_left _ hy
  | some j => simp only; split; exact hy; exact List.mem_append_left _ hy

theorem finFold_mono (cs : List Cand) (acc : List Cand × List Bytes) (y : Cand) (hy : y ∈ acc.1) :
    y ∈ (cs.foldl finStep acc).1 :=
  foldl_inv (I := fun b => y ∈ b.1) (fun cd _ b hb => finStep_mono b cd y hb) hy

/-- a candidate fed to the fold is kept itself (no id) or some kept candidate carries its id -/
theorem finFold_represents (cs : List Cand) : ∀ (acc : List Cand × List Bytes), FinInv acc → ∀ x ∈ cs,
    ∃ y ∈ (cs.foldl finStep acc).1, y.id = x.id ∧ (x.id = none → y = x) := by
  induction cs with
  | nil => intro _ _ x hx; cases hx
  | cons c cs ih =>
    intro acc hinv x hx
    rcases List.mem_cons.1 hx with rfl | hx
    · -- the step on `x` itself leaves a representative in the accumulator, which later steps keep
      have hrep : ∃ y ∈ (finStep acc x).1, y.id = x.id ∧ (x.id = none → y = x) := by
        unfold finStep
        cases hid : x.id with
        | none => exact ⟨x, by simp, hid, fun _ => rfl⟩
        | some j =>
          simp only
          split
          · next hc =>
            obtain ⟨y, hy, hyi⟩ := hinv j (by simpa using hc)
            exact ⟨y, hy, hyi, fun h => by cases h⟩
          · exact ⟨x, by simp, hid, fun h => by cases h⟩
      obtain ⟨y, hy, h1, h2⟩ := hrep
      exact ⟨y, finFold_mono cs _ y hy, h1, h2⟩
    · exact ih _ (finStep_inv acc c hinv) x hx

/-- **nothing visible is lost by the hidden filter and the id de-duplication**: a visible raw candidate is returned
itself when it is a value, and otherwise a returned candidate stands for the same option or subcommand -/
theorem finish_represents (cs : List Cand) (x : Cand) (hx : x ∈ cs) (hv : x.hidden = false) :
    ∃ y ∈ finish cs, y.id = x.id ∧ (x.id = none → y = x) ∧ y.hidden = false := by
  have hany : cs.any (!·.hidden) = true := List.any_eq_true.2 ⟨x, hx, by simp [hv]⟩
  have hxf : x ∈ cs.filter (!·.hidden) := List.mem_filter.2 ⟨hx, by simp [hv]⟩
  obtain ⟨y, hy, h1, h2⟩ := finFold_represents (cs.filter (!·.hidden)) ([], []) (by intro i hi; cases hi) x hxf
  have hyf : y ∈ finish cs := by rw [finish_eq]; simpa [hany] using hy
  exact ⟨y, hyf, h1, h2, hidden_only_if_nothing_visible cs hany y hyf⟩

/-- when nothing visible matches, hidden candidates are represented the same way -/
theorem finish_represents_hidden (cs : List Cand) (x : Cand) (hx : x ∈ cs) (hnone : cs.any (!·.hidden) = false) :
    ∃ y ∈ finish cs, y.id = x.id ∧ (x.id = none → y = x) := by
  obtain ⟨y, hy, h1, h2⟩ := finFold_represents cs ([], []) (by intro i hi; cases hi) x hx
  exact ⟨y, by rw [finish_eq]; simpa [hnone] using hy, h1, h2⟩

/-! #### completeness for short-flag clusters -/

/-- after a valid-UTF-8 cluster `-abc` none of whose flags takes a value, every short (or visible short alias) of every
arg of the level is offered as the word followed by that flag -/
theorem shorts_complete (c : ECmd) (tok : Bytes) (sf : ShortFlags) (hs : ParsedArg.toShort tok = some sf)
    (h1 : ParsedArg.isEmpty tok = false) (h2 : ParsedArg.isStdio tok = false) (h3 : ParsedArg.isEscape tok = false)
    (hl : ParsedArg.toLong tok = none) (hneg : sf.isNegativeNumber = false)
    (hutf : sf.invalid = none) (lead : Bytes) (rest : ShortFlags)
    (hp : parseShortflags c (sf.chars.length + 1) sf [] = (lead, none, rest))
    (a : EArg) (ha : a ∈ c.args) (sh : Bytes) (hsh : sh ∈ a.shorts) :
    ∃ cd ∈ optionCands c tok, cd.value = tok ++ sh ∧ cd.hidden = a.hide ∧ cd.id = some (idArg a.id) := by
  have hall := parseShortflags_all c _ sf [] lead rest hutf (Nat.lt_succ_self _) hp
  obtain ⟨htok, _, _⟩ := C13.toShort_spec tok sf hs
  have hun : C13.unread sf = sf.chars.flatten := by simp [C13.unread, hutf]
  refine ⟨{ value := ([Bytes.dash] ++ lead) ++ sh, hidden := a.hide, id := some (idArg a.id) }, ?_, ?_, rfl, rfl⟩
  · unfold optionCands
    simp only [h1, h2, h3, hl, hs, hneg, hp, Bool.false_eq_true, if_false]
    simp only [shortCands, List.mem_flatMap, List.mem_map]
    exact ⟨a, ha, sh, hsh, rfl⟩
  · simp only
    rw [htok, hun, hall]
    simp

/-! #### values: `--opt=value` and plain value candidates extend the word and name a possible value -/

theorem join_last (n : Bytes) : ∀ ps : List Bytes, ps ≠ [] → ∃ pre, C14.join n ps = pre ++ ps.getLastD []
  | [], h => absurd rfl h
  | [p], _ => ⟨[], by simp [C14.join]⟩
  | p :: q :: ps, _ => by
    obtain ⟨pre, hpre⟩ := join_last n (q :: ps) (by simp)
    refine ⟨p ++ n ++ pre, ?_⟩
    simp only [C14.join, hpre, List.append_assoc]
    simp

/-- `rsplit_delimiter` cuts the value in two: what it returns, put together, is the value -/
theorem rsplitDelim_spec (v : Bytes) (d : Option Bytes) : v = (rsplitDelim v d).1 ++ (rsplitDelim v d).2 := by
  unfold rsplitDelim
  cases d with
  | none => rfl
  | some d =>
    simp only
    cases hs : OsStrExt.split v d with
    | none => rfl
    | some parts =>
      simp only
      split
      · rfl
      · next hlen =>
        have hd : d ≠ [] := by
          intro hd; subst hd; simp [OsStrExt.split] at hs
        obtain ⟨ps, hps, hj, _⟩ := (C14.split_spec v d).2 hd
        rw [hs] at hps
        cases hps
        have hne : parts ≠ [] := by intro h; subst h; simp at hlen
        obtain ⟨pre, hpre⟩ := join_last d parts hne
        rw [hj] at hpre
        simp only
        generalize parts.getLastD [] = last at hpre ⊢
        subst hpre
        simp

/-- a value candidate is the word extended to a possible value of the arg (after the last delimiter) -/
theorem valueCands_sound (a : EArg) (v : Bytes) (u : Bool) (cd : Cand) (h : cd ∈ valueCands a v u) :
    Bytes.startsWith cd.value v = true ∧ cd.id = none ∧
    ∃ pvs p, a.pvs = some pvs ∧ p ∈ pvs ∧ cd.hidden = p.hide ∧ cd.value = (rsplitDelim v a.delimiter).1 ++ p.name := by
  unfold valueCands at h
  cases hp : a.pvs with
  | none => simp [hp] at h
  | some pvs =>
    simp only [hp] at h
    split at h
    · cases h
    · simp only [List.mem_map, List.mem_filter] at h
      obtain ⟨p, ⟨hpm, hst⟩, rfl⟩ := h
      refine ⟨?_, rfl, pvs, p, rfl, hpm, rfl, rfl⟩
      obtain ⟨t, ht⟩ := (startsWith_iff _ _).1 hst
      simp only
      have hv := rsplitDelim_spec v a.delimiter
      rw [ht, ← List.append_assoc, ← hv]
      exact startsWith_append v t

/-- **`--opt=value` candidates extend the word** and complete the value to a possible value of that option -/
theorem optvalue_candidates_extend (c : ECmd) (tok flag v : Bytes)
    (hf : ParsedArg.toLong tok = some (flag, true, some v))
    (h1 : ParsedArg.isEmpty tok = false) (h2 : ParsedArg.isStdio tok = false) (h3 : ParsedArg.isEscape tok = false)
    (cd : Cand) (hcd : cd ∈ optionCands c tok) :
    Bytes.startsWith cd.value tok = true ∧
    ∃ a ∈ c.args, a.long = some flag ∧ ∃ pvs p, a.pvs = some pvs ∧ p ∈ pvs ∧
      cd.value = b_dd ++ flag ++ [Bytes.eq] ++ ((rsplitDelim v a.delimiter).1 ++ p.name) := by
  obtain ⟨htok, _, _, _⟩ := C13.toLong_reassembles tok flag true (some v) hf
  unfold optionCands at hcd
  simp only [h1, h2, h3, hf, Bool.false_eq_true, if_false, Bool.not_true] at hcd
  cases hfa : c.args.find? (fun a => a.long == some flag) with
  | none => simp [hfa] at hcd
  | some a =>
    simp only [hfa, List.mem_map] at hcd
    obtain ⟨cd', hcd', rfl⟩ := hcd
    obtain ⟨hst, _, pvs, p, hpv, hpm, _, hval⟩ := valueCands_sound a v _ cd' hcd'
    have hmem := List.mem_of_find?_eq_some hfa
    have hlong : a.long = some flag := by have := List.find?_some hfa; simpa using this
    refine ⟨?_, a, hmem, hlong, pvs, p, hpv, hpm, by simp [hval]⟩
    obtain ⟨t, ht⟩ := (startsWith_iff _ _).1 hst
    rw [htok]
    exact (startsWith_iff _ _).2 ⟨t, by simp [ht, C13.longTail, b_dd]⟩

/-! #### end to end: where a new argument may start, every visible option and subcommand extending the word is
represented among the RETURNED candidates -/

theorem mem_insertByValue (x y : Cand) : ∀ l : List Cand, y ∈ rawCands.insertByValue x l ↔ y = x ∨ y ∈ l
  | [] => by simp [rawCands.insertByValue]
  | z :: zs => by
    unfold rawCands.insertByValue
    split
    · rw [List.mem_cons, mem_insertByValue x y zs, List.mem_cons, or_left_comm]
    · rw [List.mem_cons]

theorem mem_sortFold (l : List Cand) (y : Cand) : ∀ acc : List Cand,
    y ∈ l.foldl (fun acc x => rawCands.insertByValue x acc) acc ↔ y ∈ acc ∨ y ∈ l := by
  induction l with
  | nil => simp
  | cons x xs ih =>
    intro acc
    rw [List.foldl_cons, ih, mem_insertByValue, List.mem_cons, or_assoc, or_left_comm]

/-- `sort` + `dedup` of the subcommand candidates loses no candidate -/
theorem mem_dedupSubs (l : List Cand) (y : Cand) (h : y ∈ l) : y ∈ rawCands.dedupSubs l := by
  unfold rawCands.dedupSubs
  rw [mem_foldl_insertNew, mem_sortFold]
  exact Or.inr (Or.inr h)

/-- a visible raw candidate is answered by a returned visible candidate for the same option or subcommand -/
theorem offered_of_raw {raw : List Cand} {cd : Cand} (hraw : cd ∈ raw) (hvis : cd.hidden = false) :
    ∃ y ∈ finish raw, y.id = cd.id ∧ y.hidden = false := by
  obtain ⟨y, hy, h1, _, h3⟩ := finish_represents raw cd hraw hvis
  exact ⟨y, hy, h1, h3⟩

/-- **a visible subcommand whose name or visible alias extends the word is represented in what `complete` returns** at a
position where a new argument may start -/
theorem visible_subcommand_offered (c : ECmd) (pos : Nat) (tok : Bytes) (hu : Utf8.valid tok = true)
    (sc : ECmd) (hsc : sc ∈ c.subs) (hvis : sc.hide = false) (n : Bytes) (hn : n ∈ sc.names)
    (hp : Bytes.startsWith n tok = true) :
    ∃ y ∈ finish (rawCands c pos tok .valueDone), y.id = some (idCmd (sc.names.headD [])) ∧ y.hidden = false := by
  let cd : Cand := { value := n, hidden := sc.hide, id := some (idCmd (sc.names.headD [])) }
  have hcd : cd ∈ subCands c tok := by
    simp only [subCands, List.mem_filter, List.mem_flatMap, List.mem_append, List.mem_map]
    exact ⟨⟨sc, hsc, Or.inl ⟨n, hn, rfl⟩⟩, hp⟩
  have hraw : cd ∈ rawCands c pos tok .valueDone := by
    unfold rawCands
    simp only [hu, if_true]
    exact List.mem_append_left _ (List.mem_append_left _ (mem_dedupSubs _ cd hcd))
  exact offered_of_raw hraw hvis

/-- **a visible option one of whose long spellings extends `--prefix` is represented in what `complete` returns** at a
position where a new argument may start -/
theorem visible_long_offered (c : ECmd) (pos : Nat) (tok flag : Bytes) (hf : ParsedArg.toLong tok = some (flag, true, none))
    (h1 : ParsedArg.isEmpty tok = false) (h2 : ParsedArg.isStdio tok = false) (h3 : ParsedArg.isEscape tok = false)
    (a : EArg) (ha : a ∈ c.args) (hvis : a.hide = false) (l : Bytes) (hl : l ∈ a.longs)
    (hp : Bytes.startsWith (b_dd ++ l) tok = true) :
    ∃ y ∈ finish (rawCands c pos tok .valueDone), y.id = some (idArg a.id) ∧ y.hidden = false := by
  obtain ⟨cd, hcd, _, hhid, hid⟩ := longs_complete c tok flag hf h1 h2 h3 a ha l hl hp
  exact hid ▸ offered_of_raw (List.mem_append_right _ hcd) (hhid.trans hvis)

/-- the same for a short after a cluster of flags -/
theorem visible_short_offered (c : ECmd) (pos : Nat) (tok : Bytes) (sf : ShortFlags) (hs : ParsedArg.toShort tok = some sf)
    (h1 : ParsedArg.isEmpty tok = false) (h2 : ParsedArg.isStdio tok = false) (h3 : ParsedArg.isEscape tok = false)
    (hl : ParsedArg.toLong tok = none) (hneg : sf.isNegativeNumber = false)
    (hutf : sf.invalid = none) (lead : Bytes) (rest : ShortFlags)
    (hp : parseShortflags c (sf.chars.length + 1) sf [] = (lead, none, rest))
    (a : EArg) (ha : a ∈ c.args) (hvis : a.hide = false) (sh : Bytes) (hsh : sh ∈ a.shorts) :
    ∃ y ∈ finish (rawCands c pos tok .valueDone), y.id = some (idArg a.id) ∧ y.hidden = false := by
  obtain ⟨cd, hcd, _, hhid, hid⟩ := shorts_complete c tok sf hs h1 h2 h3 hl hneg hutf lead rest hp a ha sh hsh
  exact hid ▸ offered_of_raw (List.mem_append_right _ hcd) (hhid.trans hvis)

/-- non-vacuity: on the sample command the empty word is answered with a candidate standing for subcommand `s` -/
example : ∃ y ∈ finish (rawCands sample 1 [] .valueDone), y.id = some (idCmd [115]) ∧ y.hidden = false :=
  visible_subcommand_offered sample 1 [] (by decide) (.mk [[115]] [] false false [] []) (by simp [sample, ECmd.subs]) rfl [115]
    (by simp [ECmd.names]) (by decide)

end Clap.C18

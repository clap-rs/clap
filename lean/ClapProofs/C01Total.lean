/-
C01 — parsing never panics, end to end: token loop, hand-over to the subcommand (also after a short flag
subcommand in the middle of a cluster), pending values, env and default passes, validator, for every command
tree meeting clap's own build assertions and every argv.
-/
import ClapProofs.C01Loop
import ClapProofs.Lemmas.Phases
import ClapProofs.C09
import ClapProofs.C01Valid
namespace Clap.C01
open Clap Parser

/-! #### every name the loop dispatches to is a subcommand of the level -/

theorem mem_name_resolves (c : Cmd) {l : Option Cmd} {n : Bytes} {q : Cmd → Bool} (hl : l = c.subs.find? q)
    (h : l.map Cmd.name = some n) : (c.findSubcommand n).isSome = true := by
  subst hl
  obtain ⟨s, hf, rfl⟩ := Option.map_eq_some_iff.1 h
  exact C09.findSubcommand_self c s (List.mem_of_find?_eq_some hf)

theorem findShortSubcmd_resolves (c : Cmd) (ch n : Bytes) (h : c.findShortSubcmd ch = some n) :
    (c.findSubcommand n).isSome = true :=
  mem_name_resolves c rfl h

theorem possibleLongFlagSubcommand_resolves (c : Cmd) (arg n : Bytes)
    (h : possibleLongFlagSubcommand c arg = some n) : (c.findSubcommand n).isSome = true := by
  obtain ⟨s, hs, rfl, _⟩ := possibleLongFlagSubcommand_sound h
  exact C09.findSubcommand_self c s hs

/-! #### the state of the token loop -/

/-- the loop's parse state names an arg of the command, and while an option collects values it is the pending arg -/
def SInv (c : Cmd) (ls : LoopSt) (p : P) : Prop :=
  stateArg c ls.st ≠ none ∧
  ∀ id, ls.st = .opt id → (∃ a, c.find id = some a ∧ a.index = none) ∧ ∀ pd, p.pending = some pd → pd.id = id

theorem SInv.of_opt {c : Cmd} {ls' : LoopSt} {p' : P} {a : Arg} (hst : ls'.st = .opt a.id)
    (ha : c.find a.id = some a ∧ a.index = none) (hpd : ∃ pd, p'.pending = some pd ∧ pd.id = a.id) : SInv c ls' p' := by
  obtain ⟨pd, hpd, hpid⟩ := hpd
  refine ⟨by rw [hst]; simp [stateArg, ha.1], fun id' hid' => ?_⟩
  rw [hst] at hid'
  cases hid'
  exact ⟨⟨a, ha⟩, fun pd' hpd' => by rw [hpd] at hpd'; cases hpd'; exact hpid⟩

/-- the state after a `MaybeHyphenValue` / `NoArg` answer still meets the state invariant -/
theorem SInv.keep {c : Cmd} {ls ls' : LoopSt} {p p1 : P} (hs : SInv c ls p) (hst : ls'.st = ls.st)
    (hk : p1.pending = none ∨ p1.pending = p.pending) : SInv c ls' p1 := by
  refine ⟨by rw [hst]; exact hs.1, ?_⟩
  intro id hid
  rw [hst] at hid
  obtain ⟨hex, hall⟩ := hs.2 id hid
  refine ⟨hex, ?_⟩
  intro pd hpd
  rcases hk with h | h
  · rw [h] at hpd; cases hpd
  · rw [h] at hpd; exact hall pd hpd

theorem matchArgError_not_panic (c : Cmd) (similar : Bytes → Bytes → Bool) (tok : Bytes) (ls : LoopSt) :
    isPanic (matchArgError c similar tok ls) = false := by
  unfold matchArgError
  exact isPanic_ite rfl (isPanic_ite (isPanic_ite rfl (isPanic_ite rfl (isPanic_ite rfl rfl))) rfl)

theorem pendingPush_index (p1 : P) (id : Id) (tr : Bool) (tok : Bytes)
    (h : p1.pending = none ∨ ∃ pd, p1.pending = some pd ∧ pd.id = id ∧ pd.ident = some .index) :
    ∃ pend, pendingPush p1 id (some .index) tr (some tok) = ({ p1 with pending := some pend }, .ok ()) ∧
      pend.id = id ∧ pend.ident = some .index := by
  unfold pendingPush
  rcases h with h | ⟨pd, h, hid, hident⟩
  · simp only [h, Option.getD_none, bne_self_eq_false, Bool.false_eq_true, ↓reduceIte, Option.isSome_some, Bool.true_and]
    split <;> exact ⟨_, rfl, rfl, rfl⟩
  · simp only [h, Option.getD_some, hid, bne_self_eq_false, Bool.false_eq_true, ↓reduceIte, Option.isSome_some, Bool.true_and,
      hident]
    split <;> first | exact ⟨_, rfl, hid, hident⟩ | exact ⟨_, rfl, rfl, rfl⟩

theorem pendingPush_opt (p : P) (id : Id) (tok : Bytes) (h : ∀ pd, p.pending = some pd → pd.id = id) :
    ∃ pend, pendingPush p id none false (some tok) = ({ p with pending := some pend }, .ok ()) ∧ pend.id = id := by
  unfold pendingPush
  cases hpd : p.pending with
  | none => simp
  | some pd => simp [h pd hpd]

theorem helpWalk_not_panic : ∀ (toks : List Bytes) (c : Cmd), isPanic (helpWalk c toks) = false
  | [], _ => rfl
  | t :: ts, c => by
    unfold helpWalk
    split
    · exact helpWalk_not_panic ts _
    · rfl

theorem startTrailing_pending (p : P) :
    (startTrailing p).flagSubSkip = p.flagSubSkip ∧
    (p.pending = none → (startTrailing p).pending = none) ∧
    ∀ pd, p.pending = some pd → ∃ pd', (startTrailing p).pending = some pd' ∧ pd'.id = pd.id ∧ pd'.ident = pd.ident := by
  unfold startTrailing
  cases hpd : p.pending with
  | none => simp [hpd]
  | some pd0 => simp

theorem startTrailing_inv {c : Cmd} {ls : LoopSt} {p : P} (hp : PInv c p) (hs : SInv c ls p) (ls' : LoopSt)
    (hst : ls'.st = ls.st) : PInv c (startTrailing p) ∧ SInv c ls' (startTrailing p) := by
  obtain ⟨hf, hn, hsome⟩ := startTrailing_pending p
  have key : ∀ pd', (startTrailing p).pending = some pd' → ∃ pd, p.pending = some pd ∧ pd'.id = pd.id ∧ pd'.ident = pd.ident := by
    intro pd' h'
    cases hpd : p.pending with
    | none => rw [hn hpd] at h'; cases h'
    | some pd =>
      obtain ⟨pd'', h1, h2, h3⟩ := hsome pd hpd
      rw [h1] at h'; cases h'
      exact ⟨pd, rfl, h2, h3⟩
  refine ⟨⟨by rw [hf]; exact hp.1, ?_⟩, ⟨by rw [hst]; exact hs.1, ?_⟩⟩
  · intro pd' h'
    obtain ⟨pd, hpd, h2, h3⟩ := key pd' h'
    obtain ⟨a, ha, hor⟩ := hp.2 pd hpd
    exact ⟨a, by rw [h2]; exact ha, by rw [h3]; exact hor⟩
  · intro id hid
    rw [hst] at hid
    obtain ⟨hex, hall⟩ := hs.2 id hid
    refine ⟨hex, ?_⟩
    intro pd' h'
    obtain ⟨pd, hpd, h2, _⟩ := key pd' h'
    rw [h2]; exact hall pd hpd

/-! #### how the loop can end -/

/-- the loop's result is fit for the rest of `Parser::parse`: a dispatch names a subcommand of the level, and a
revisit of the current cluster (`keep_state`) skips no more flags than the cluster has -/
def EndOk (c : Cmd) (p' : P) : LoopEnd → Prop
  | .done => True
  | .external _ _ => True
  | .sub name rest keep _ => (c.findSubcommand name).isSome = true ∧
      (keep = true → ∃ tok rest' sf, rest = tok :: rest' ∧ ParsedArg.toShort tok = some sf ∧
        p'.flagSubSkip ≤ sf.chars.length)

theorem condResolve_spec (c : Cmd) (a : Arg) (n : Nat) (p : P) (hp : PInv c p) (hfind : c.find a.id = some a)
    (hidx : a.index = some n) (r1 : R Unit)
    (hr : r1 = (if (p.pending.map (·.id) != some a.id || !a.isMultipleValues) = true
            then resolvePending c p else (p, .ok ()))) :
    (∀ e, r1.2 = .error e → isPanic e = false) ∧ PInv c r1.1 ∧
    (r1.1.pending = none ∨ ∃ pd, r1.1.pending = some pd ∧ pd.id = a.id ∧ pd.ident = some .index) := by
  split at hr
  · subst hr
    obtain ⟨hnone, hnp⟩ := resolvePending_spec c p hp.pendingOk
    exact ⟨hnp, hp.resolve, Or.inl hnone⟩
  · next hcond =>
    subst hr
    refine ⟨by simp, hp, ?_⟩
    cases hpd : p.pending with
    | none => exact Or.inl rfl
    | some pd =>
      right
      simp [hpd] at hcond
      obtain ⟨a', ha', hor⟩ := hp.2 pd hpd
      rw [hcond.1, hfind] at ha'
      simp at ha'; subst ha'
      refine ⟨pd, rfl, hcond.1, ?_⟩
      rcases hor with h1 | h1
      · exact h1
      · rw [hidx] at h1; cases h1

theorem SInv.valuesDone (c : Cmd) (ls' : LoopSt) (p' : P) (hst : ls'.st = .valuesDone) : SInv c ls' p' :=
  ⟨by rw [hst]; simp [stateArg], by intro id hid; rw [hst] at hid; cases hid⟩

/-! #### entering a level -/

theorem toShort_not_long {tok : Bytes} {sf : ShortFlags} (h : ParsedArg.toShort tok = some sf) :
    ParsedArg.isEscape tok = false ∧ ParsedArg.toLong tok = none := by
  cases tok with
  | nil => simp [ParsedArg.toShort, Bytes.stripPrefix] at h
  | cons t ts =>
    by_cases ht : t = Bytes.dash
    · subst ht
      have hs : Bytes.stripPrefix (Bytes.dash :: ts) [Bytes.dash] = some ts := by simp [Bytes.stripPrefix]
      unfold ParsedArg.toShort at h
      rw [hs] at h
      simp only at h
      split at h
      · simp at h
      · next hsw =>
        cases ts with
        | nil => simp at h
        | cons r rs =>
          have hr : (r == Bytes.dash) = false := by
            simpa [Bytes.startsWith] using hsw
          constructor
          · unfold ParsedArg.isEscape
            apply Bool.eq_false_iff.2
            intro heq
            have : Bytes.dash :: r :: rs = [Bytes.dash, Bytes.dash] := by simpa using heq
            simp at this
            rw [this.1] at hr
            simp at hr
          · unfold ParsedArg.toLong
            simp [Bytes.stripPrefix, hr]
    · have hs : Bytes.stripPrefix (t :: ts) [Bytes.dash] = none := by simp [Bytes.stripPrefix, ht]
      unfold ParsedArg.toShort at h
      rw [hs] at h
      simp at h

/-- the state in which `Parser::parse` is entered: nothing pending, and either no revisit in progress or the
first token is the cluster being revisited, with a skip count within it -/
def Entry (toks : List Bytes) (p : P) : Prop :=
  p.pending = none ∧
  (p.flagSubSkip = 0 ∨ ∃ tok rest sf, toks = tok :: rest ∧ ParsedArg.toShort tok = some sf ∧ p.flagSubSkip ≤ sf.chars.length)

/-- the loop, or what is left of it, never panics, and ends as `EndOk` says with at most an arg of the command pending -/
def LoopOut (c : Cmd) (x : R LoopEnd) : Prop :=
  Out (fun _ => True) (isPanic · = false) (fun p' le => PendingOk c p' ∧ EndOk c p' le) x

def KOut (c : Cmd) (k : LoopSt → P → R LoopEnd) : Prop := ∀ ls p, PInv c p → SInv c ls p → LoopOut c (k ls p)

theorem positionalPart_out (c : Cmd) (wf : WF c) (similar : Bytes → Bytes → Bool) (tok : Bytes) (rest : List Bytes)
    (k : LoopSt → P → R LoopEnd) (hk : KOut c k) (ls : LoopSt) (p : P) (hp : PInv c p) :
    LoopOut c (positionalPart c similar tok rest k ls p) := by
  unfold positionalPart
  simp only
  cases hg : c.getPos (correctPosCounter c ls rest.head?) with
  | some a =>
    obtain ⟨hfind, hidx⟩ := getPos_spec wf hg
    simp only
    refine .ite (fun _ => Out.error trivial rfl) fun _ => ?_
    generalize hgen : (if (p.pending.map (·.id) != some a.id || !a.isMultipleValues) = true
          then resolvePending c p else (p, .ok ())) = r1
    obtain ⟨hnp1, hinv1, hpend1⟩ := condResolve_spec c a _ p hp hfind hidx r1 hgen.symm
    obtain ⟨p1, res1⟩ := r1
    cases res1 with
    | error e1 => exact Out.error trivial (hnp1 e1 rfl)
    | ok u =>
      simp only at hinv1 hpend1 ⊢
      refine .ite (fun _ => hk _ _ hinv1 (SInv.valuesDone c _ _ rfl)) fun _ => ?_
      obtain ⟨pend, hpush, hpid, hpident⟩ := pendingPush_index p1 a.id (ls.trailing || a.trailingVarArg) tok hpend1
      rw [hpush]
      simp only
      have hinv2 : PInv c { p1 with pending := some pend } :=
        ⟨hinv1.1, fun pd hpd => by cases hpd; exact ⟨a, by rw [hpid]; exact hfind, Or.inl hpident⟩⟩
      exact .ite (fun _ => hk _ _ hinv2 (SInv.valuesDone c _ _ rfl))
        fun _ => hk _ _ hinv2 ⟨by simp [stateArg, hfind], by intro id hid; cases hid⟩
  | none =>
    simp only
    exact .ite (fun _ => .ite (fun _ => Out.error trivial rfl) fun _ => Out.ok trivial ⟨hp.pendingOk, trivial⟩)
      fun _ => Out.error trivial (matchArgError_not_panic _ _ _ _)

theorem optValuePart_out (c : Cmd) (wf : WF c) (similar : Bytes → Bytes → Bool) (tok : Bytes) (rest : List Bytes)
    (k : LoopSt → P → R LoopEnd) (hk : KOut c k) (ls : LoopSt) (p : P) (hp : PInv c p) (hs : SInv c ls p) :
    LoopOut c (optValuePart c similar tok rest k ls p) := by
  unfold optValuePart
  split
  · next id hst =>
    obtain ⟨⟨a0, ha0, hidx0⟩, hpend⟩ := hs.2 id hst
    rw [ha0]
    simp only
    have haid := find_id ha0
    split
    · exact hk _ _ hp (SInv.valuesDone c _ _ rfl)
    · obtain ⟨pend, hpush, hpid⟩ := pendingPush_opt p id tok hpend
      rw [hpush]
      simp only
      have hinv : PInv c { p with pending := some pend } :=
        ⟨hp.1, fun pd hpd => by cases hpd; exact ⟨a0, by rw [hpid]; exact ha0, Or.inr hidx0⟩⟩
      split
      · refine hk _ _ hinv ⟨by simp [stateArg, haid, ha0], fun id' hid' => ?_⟩
        cases hid'
        exact ⟨⟨a0, by rw [haid]; exact ha0, hidx0⟩, fun pd' hpd' => by cases hpd'; rw [hpid, haid]⟩
      · exact hk _ _ hinv (SInv.valuesDone c _ _ rfl)
  · exact positionalPart_out c wf similar tok rest k hk ls p hp

/-- no revisit of a cluster is in progress, or the loop is about to read that cluster -/
def Rev (ls : LoopSt) (toks : List Bytes) (p : P) : Prop :=
  p.flagSubSkip = 0 ∨
  (ls.trailing = false ∧ ∃ tok rest sf, toks = tok :: rest ∧ ParsedArg.toShort tok = some sf ∧ p.flagSubSkip ≤ sf.chars.length)

/-- **the token loop of `Parser::parse`**, from every state meeting the invariant and also when the level is entered
to revisit a cluster after a short flag subcommand: it never panics, and ends as `EndOk` says -/
theorem loop_out (c : Cmd) (wf : WF c) (similar : Bytes → Bytes → Bool) :
    ∀ (toks : List Bytes) (ls : LoopSt) (p : P), PendInv c p → Rev ls toks p → SInv c ls p →
      LoopOut c (loop c similar ls toks p) := by
  intro toks
  induction toks with
  | nil =>
    intro ls p hpend _ _
    rw [loop]
    exact Out.ok trivial ⟨fun pd hpd => by obtain ⟨a, ha, _⟩ := hpend pd hpd; simp [ha], trivial⟩
  | cons tok rest ih =>
    intro ls p hpend hrev hs
    have hpo : PendingOk c p := fun pd hpd => by obtain ⟨a, ha, _⟩ := hpend pd hpd; simp [ha]
    have hk : KOut c (fun ls p => loop c similar ls rest p) := fun ls p hp hs => ih ls p hp.2 (Or.inl hp.1) hs
    -- outside a revisit the state meets `PInv`; a revisit excludes every branch but the short cluster
    have hp0 : (∀ sf, ParsedArg.toShort tok = some sf → False) ∨ ls.trailing = true → PInv c p := by
      intro h
      rcases hrev with h0 | ⟨htr, tok', rest', sf, heq, hsf, _⟩
      · exact ⟨h0, hpend⟩
      · cases heq
        rcases h with h | h
        · exact (h sf hsf).elim
        · rw [htr] at h; cases h
    rw [loop]
    generalize (fun ls p => loop c similar ls rest p) = k at hk
    refine .ite (fun htr => positionalPart_out c wf similar tok rest k hk ls p (hp0 (Or.inr htr))) fun _ => ?_
    simp only
    split
    · next sc hsc =>
      refine .ite (fun _ => Out.error trivial (helpWalk_not_panic _ _)) fun _ => ?_
      refine Out.ok trivial ⟨hpo, ?_, by intro hk'; cases hk'⟩
      split at hsc
      · exact C09.possibleSubcommand_resolves c tok _ _ hsc
      · cases hsc
    refine .ite (fun hesc => ?_) fun _ => ?_
    · have hp := hp0 (Or.inl fun sf hsf => by rw [(toShort_not_long hsf).1] at hesc; cases hesc)
      split
      · next hsa => exact absurd hsa hs.1
      · refine .ite (fun _ => optValuePart_out c wf similar tok rest k hk ls p hp hs) fun _ => ?_
        obtain ⟨h1, h2⟩ := startTrailing_inv hp hs { ls with trailing := true } rfl
        exact hk _ _ h1 h2
    cases hl : ParsedArg.toLong tok with
    | some l =>
      obtain ⟨longArg, isUtf8, longValue⟩ := l
      simp only
      have hp := hp0 (Or.inl fun sf hsf => by rw [(toShort_not_long hsf).2] at hl; cases hl)
      rcases (parseLongArg_out c longArg isUtf8 longValue ls.st ls.posCounter ls.validArgFound p).elim with
        ⟨p1, e, hr, _, he⟩ | ⟨p1, ⟨r, vaf⟩, hr, h1, hq⟩ <;> simp only [hr]
      · refine Out.error trivial ?_
        cases hpan : isPanic e
        · rfl
        · rcases he hpo hpan with h' | h'
          · exact absurd h' hs.1
          · rw [toLong_nonempty hl] at h'; cases h'
      · have hinv : PInv c p1 := h1.inv hp fun pd ⟨a, hf, hid, _⟩ =>
          ⟨a, by rw [hid]; exact (findLong_spec wf hf).1, Or.inr (findLong_spec wf hf).2⟩
        rcases hq with ⟨h, rfl, _⟩ | ⟨h, _⟩ | ⟨n, h, _, hn⟩ | ⟨a, hf, _, h | h | ⟨h, _⟩ | ⟨h, hpd⟩⟩ <;>
          simp only at h <;> subst h <;> simp only
        · exact optValuePart_out c wf similar tok rest k hk _ p1 hinv (hs.keep rfl (Or.inr rfl))
        · exact Out.error trivial rfl
        · exact Out.ok trivial ⟨hinv.pendingOk, possibleLongFlagSubcommand_resolves c longArg _ hn,
            by intro hk'; cases hk'⟩
        · exact Out.error trivial rfl
        · exact Out.error trivial rfl
        · exact hk _ _ hinv (SInv.valuesDone c _ _ rfl)
        · exact hk _ _ hinv (SInv.of_opt rfl (findLong_spec wf hf) hpd)
    | none =>
      simp only
      cases hsf : ParsedArg.toShort tok with
      | some sf =>
        simp only
        have hf : p.flagSubSkip ≤ sf.chars.length := by
          rcases hrev with h0 | ⟨_, tok', rest', sf', heq, hsf', hle⟩
          · rw [h0]; exact Nat.zero_le _
          · cases heq; rw [hsf] at hsf'; cases hsf'; exact hle
        rcases (parseShortArg_out c sf ls.st ls.posCounter ls.validArgFound p hf hs.1).elim with
          ⟨p1, e, hr, _, he⟩ | ⟨p1, ⟨r, vaf⟩, hr, h1, hq⟩ <;> simp only [hr]
        · exact Out.error trivial (he hpo)
        · have hinv : PInv c p1 := ⟨h1.1, fun pd hpd => (h1.2 pd hpd).elim (hpend pd) fun ⟨a, ch, hg, hid, _⟩ =>
            ⟨a, by rw [hid]; exact (getShort_spec wf hg).1, Or.inr (getShort_spec wf hg).2⟩⟩
          rcases hq with ⟨h, hp1⟩ | ⟨h, hp1⟩ | ⟨h | h, hn⟩ | h | ⟨h, _⟩ | ⟨n, x, h, _, hn, hle, _⟩ |
              ⟨a, x, _, hg, h, hpd⟩ <;>
            simp only at h <;> subst h <;> simp only
          · exact optValuePart_out c wf similar tok rest k hk _ p1 hinv (hs.keep rfl (Or.inr (by rw [hp1])))
          · exact optValuePart_out c wf similar tok rest k hk _ p1 hinv (hs.keep rfl (Or.inr (by rw [hp1])))
          · exact optValuePart_out c wf similar tok rest k hk _ p1 hinv (hs.keep rfl (Or.inl hn))
          · exact hk _ _ hinv (SInv.valuesDone c _ _ rfl)
          · exact Out.error trivial rfl
          · exact Out.error trivial rfl
          · have hres := findShortSubcmd_resolves c x _ hn
            split
            · exact Out.ok trivial ⟨hinv.pendingOk, hres, fun _ => ⟨tok, rest, sf, rfl, hsf, hle⟩⟩
            · exact Out.ok trivial ⟨hinv.pendingOk, hres, by intro hk'; cases hk'⟩
          · exact hk _ _ hinv (SInv.of_opt rfl (getShort_spec wf hg) hpd)
      | none =>
        exact optValuePart_out c wf similar tok rest k hk ls p (hp0 (Or.inl fun sf h => by rw [hsf] at h; cases h)) hs

/-- **the token loop of `Parser::parse` never panics**: for every command level meeting clap's own build
assertions (`WF`), every argv tail of any length and content, from every state meeting the invariant - none of the
`expect`s, `unreachable!`s and `debug_assert`s on the way (`cmd[id]`, `pending_values_mut`, `resolve_pending`,
`add_val_to`, the dead `ParseResult` arms, `--` reaching `parse_long_arg`) can fire. -/
theorem loop_no_panic (c : Cmd) (wf : WF c) (similar : Bytes → Bytes → Bool) :
    ∀ (toks : List Bytes) (ls : LoopSt) (p : P), PInv c p → SInv c ls p →
      ∀ e, (loop c similar ls toks p).2 = .error e → isPanic e = false :=
  fun toks ls p hp hs _ he => (loop_out c wf similar toks ls p hp.2 (Or.inl hp.1) hs).of_error he

/-- **how the token loop ends**: with nothing but a well-formed pending arg, and - when it dispatches - on a
subcommand of this level, any revisit staying within the cluster -/
theorem loop_end (c : Cmd) (wf : WF c) (similar : Bytes → Bytes → Bool) :
    ∀ (toks : List Bytes) (ls : LoopSt) (p : P), PInv c p → SInv c ls p →
      ∀ p' le, loop c similar ls toks p = (p', .ok le) → PendingOk c p' ∧ EndOk c p' le :=
  fun toks ls p hp hs _ _ h => (loop_out c wf similar toks ls p hp.2 (Or.inl hp.1) hs).of_eq_ok h

/-! #### after the loop: env, defaults -/

/-- the passes start with nothing pending and end so, and an error of theirs is no panic -/
theorem calm_step (c : Cmd) : PhaseStep c (·.pending = none) (isPanic · = false) :=
  fun s a vals p _ _ h => (react_out c none s a vals none p).mono (fun _ h1 => h1.pending)
    (fun _ he => he (.of_none h)) (fun _ _ _ _ => trivial)

theorem addEnv_spec (c : Cmd) : ∀ (as : List Arg) (p : P), p.pending = none →
    (addEnv c as p).1.pending = none ∧ ∀ e, (addEnv c as p).2 = .error e → isPanic e = false :=
  fun as p h => ⟨(addEnv_out (calm_step c) as p h).fst, fun _ he => (addEnv_out (calm_step c) as p h).of_error he⟩

theorem addDefaults_spec (c : Cmd) : ∀ (as : List Arg) (p : P), p.pending = none →
    (addDefaults c as p).1.pending = none ∧ ∀ e, (addDefaults c as p).2 = .error e → isPanic e = false :=
  fun as p h => ⟨(addDefaults_out (calm_step c) as p h).fst, fun _ he => (addDefaults_out (calm_step c) as p h).of_error he⟩

/-! #### the whole of `get_matches_with`, every level -/

/-- `d` is `c` or one of its (transitive) subcommands -/
inductive Desc : Cmd → Cmd → Prop
  | refl (c : Cmd) : Desc c c
  | step (c sc d : Cmd) : sc ∈ c.subs → Desc sc d → Desc c d

/-- every level of the tree meets clap's build assertions: unique arg ids, positionals without long names,
group members that exist -/
def WFTree (c : Cmd) : Prop := ∀ d, Desc c d → WF d ∧ GroupsOk d

theorem WFTree.sub {c sc : Cmd} (h : WFTree c) (hs : sc ∈ c.subs) : WFTree sc :=
  fun d hd => h d (Desc.step c sc d hs hd)

/-- the state handed to the subcommand's parser -/
def keepP (pl : P) (keep : Bool) : P :=
  if keep then { curIdx := pl.curIdx, flagSubAt := pl.flagSubAt, flagSubSkip := pl.flagSubSkip,
                 flagSubConsumed := pl.flagSubConsumed } else {}

/-- a descent that never panics on the subcommands of `c` -/
def DescOk (c : Cmd) (descend : Descend) : Prop :=
  ∀ sc ∈ c.subs, ∀ toks p, Entry toks p → ∀ p' e, descend sc toks p = some (p', .error e) → isPanic e = false

theorem core_no_panic (similar : Bytes → Bytes → Bool) (descend : Descend) (c : Cmd) (wf : WF c) (wg : GroupsOk c)
    (hd : DescOk c descend) (toks : List Bytes) (p : P) (he : Entry toks p) :
    ∀ p' e, getMatchesWithCore similar descend c toks p = some (p', .error e) → isPanic e = false := by
  have hloop := loop_out c wf similar toks {} p (fun pd hpd => by rw [he.1] at hpd; cases hpd)
    (he.2.imp_right fun h => ⟨rfl, h⟩) (SInv.valuesDone c _ _ rfl)
  -- `Parser::parse`: never panics, and leaves a pending arg of the command (if any)
  have hparse : ∀ x, parse similar descend c toks p = some x →
      Out (fun _ => True) (isPanic · = false) (fun p1 _ => PendingOk c p1) x := by
    intro x h
    unfold parse at h
    rcases hloop.elim with ⟨pl, e, hl, _, hE⟩ | ⟨pl, le, hl, _, hpo, hend⟩ <;> simp only [hl] at h
    · cases h; exact Out.error trivial hE
    · cases le with
      | done => cases h; exact Out.ok trivial hpo
      | external name rest => cases h; exact Out.ok trivial fun pd hpd => hpo pd hpd
      | sub name rest keep vaf =>
        obtain ⟨hfind, hkeep⟩ := hend
        simp only at h
        split at h
        · cases h; exact Out.error trivial rfl
        · unfold parseSub at h
          cases hf : c.findSubcommand name with
          | none => rw [hf] at hfind; cases hfind
          | some sc =>
            have hentry : Entry rest (keepP pl keep) := by
              cases keep with
              | false => exact ⟨rfl, Or.inl rfl⟩
              | true => exact ⟨rfl, Or.inr (hkeep rfl)⟩
            have hdesc := hd sc (findSubcommand_mem hf) rest (keepP pl keep) hentry
            rw [hf] at h
            simp only at h
            split at h
            · cases h
            · next ps e hde =>
              have hnp := hdesc ps e hde
              split at h
              · next site => cases hnp
              · split at h
                · cases h; exact Out.ok trivial fun pd hpd => hpo pd hpd
                · cases h; exact Out.error trivial hnp
            · cases h; exact Out.ok trivial fun pd hpd => hpo pd hpd
  intro p' e h
  unfold getMatchesWithCore at h
  split at h
  · cases h
  · next p1 e1 hp1 =>
    have hne : isPanic e1 = false := (hparse _ hp1).of_error rfl
    split at h <;> (cases h; exact hne)
  · next p1 hp1 =>
    have hpo : PendingOk c p1 := (hparse _ hp1).of_ok rfl
    rcases (resolvePending_out c p1).elim with ⟨p2, e2, hr, _, he⟩ | ⟨p2, _, hr, h2, _⟩ <;> simp only [hr] at h
    · cases h; exact he hpo
    · rcases (addEnv_out (calm_step c) c.args p2 h2.pending).elim with ⟨p3, e3, hr3, _, he⟩ | ⟨p3, _, hr3, h3, _⟩ <;>
        simp only [hr3] at h
      · cases h; exact he
      · rcases (addDefaults_out (calm_step c) c.args p3 h3).elim with ⟨p4, e4, hr4, _, he⟩ | ⟨p4, _, hr4, _, _⟩ <;>
          simp only [hr4] at h
        · cases h; exact he
        · split at h
          · next ev hev => cases h; exact validate_no_panic c wg _ _ hev
          · cases h

/-- **`Parser::get_matches_with` never panics, at any depth**: induction over the descent -/
theorem getMatchesWith_no_panic (similar : Bytes → Bytes → Bool) :
    ∀ (fuel : Nat) (c : Cmd), WFTree c → ∀ toks p, Entry toks p →
      ∀ p' e, getMatchesWith similar fuel c toks p = some (p', .error e) → isPanic e = false := by
  intro fuel
  induction fuel with
  | zero =>
    intro c wt toks p he
    unfold getMatchesWith
    exact core_no_panic similar _ c (wt c (Desc.refl c)).1 (wt c (Desc.refl c)).2
      (fun sc _ toks p _ p' e h => by simp at h) toks p he
  | succ fuel ih =>
    intro c wt toks p he
    unfold getMatchesWith
    exact core_no_panic similar _ c (wt c (Desc.refl c)).1 (wt c (Desc.refl c)).2
      (fun sc hsc toks p he => ih sc (wt.sub hsc) toks p he) toks p he

/-- **parsing is total**: on a built command tree every level of which meets clap's build assertions, `_do_parse`
returns matches or a clap error for EVERY argv - it never runs out of fuel (fuel at least the tree height) and none
of the parser's `expect` / `unwrap` / `unreachable!` / `debug_assert!` sites is reached -/
theorem doParse_total (similar : Bytes → Bytes → Bool) (fuel : Nat) (c : Cmd) (hh : c.height ≤ fuel + 1)
    (wt : WFTree c) (toks : List Bytes) :
    ∃ r, Command.doParse similar fuel c toks = some r ∧ ∀ e, r = .error e → isPanic e = false := by
  have hterm := doParse_terminates similar fuel c hh toks
  cases hd : Command.doParse similar fuel c toks with
  | none => rw [hd] at hterm; cases hterm
  | some r =>
    refine ⟨r, rfl, fun e he => ?_⟩
    subst he
    obtain ⟨p, hg, _⟩ := doParse_error hd
    exact getMatchesWith_no_panic similar fuel c wt toks {} ⟨rfl, Or.inl rfl⟩ p e hg

/-! #### the hypothesis is decidable, and the driver evaluates it on every command the harness generates -/

theorem wfLevelB_sound {c : Cmd} (h : c.wfLevelB = true) : WF c ∧ GroupsOk c := by
  unfold Cmd.wfLevelB at h
  simp only [Bool.and_eq_true, decide_eq_true_eq, List.all_eq_true, Bool.or_eq_true, Bool.not_eq_eq_eq_not, Bool.not_true] at h
  obtain ⟨⟨h1, h2⟩, h3⟩ := h
  refine ⟨⟨h1, ?_⟩, ?_⟩
  · intro a ha hi
    rcases h2 a ha with h4 | h4
    · rw [hi] at h4; cases h4
    · exact ⟨by simpa using h4.1, by simpa using h4.2⟩
  · intro g hg n hn
    exact h3 g hg n hn

theorem wfTreeB_sound : ∀ (fuel : Nat) (c : Cmd), c.wfTreeB fuel = true → WFTree c := by
  intro fuel
  induction fuel with
  | zero =>
    intro c h d hd
    unfold Cmd.wfTreeB at h
    simp only [Bool.and_eq_true, List.isEmpty_iff] at h
    cases hd with
    | refl => exact wfLevelB_sound h.1
    | step _ sc _ hs _ => rw [h.2] at hs; cases hs
  | succ fuel ih =>
    intro c h d hd
    unfold Cmd.wfTreeB at h
    simp only [Bool.and_eq_true, List.all_eq_true] at h
    cases hd with
    | refl => exact wfLevelB_sound h.1
    | step _ sc _ hs hrest => exact ih sc (h.2 sc hs) d hrest

/-- **`try_get_matches_from` is total** on every command whose built tree passes the decidable well-formedness
check (evaluated by the driver on every command the harness generates) -/
theorem tryGetMatchesFrom_total (similar : Bytes → Bytes → Bool) (depth : Nat) (c : Cmd) (argv : List Bytes)
    (hh : (Build.buildAll (depth + 2) c).height ≤ depth + 3)
    (hwf : (Build.buildAll (depth + 2) c).wfTreeB (depth + 3) = true) :
    ∃ r, Command.tryGetMatchesFrom similar depth c argv = some r ∧ ∀ e, r = .error e → isPanic e = false := by
  unfold Command.tryGetMatchesFrom
  exact doParse_total similar (depth + 2) _ hh (wfTreeB_sound _ _ hwf) _

/-- the hypotheses are met by a command with an option, a multi-valued positional and a flag subcommand -/
example :
    let sub : Cmd := .mk [115] [] (some [83]) none [] [] {} [{ id := [120], short := some [120] }] [] []
    let c : Cmd := .mk [112] [] none none [] [] {}
      [{ id := [111], long := some [111] }, { id := [102], index := some 1, numVals := some ⟨1, none⟩ }]
      [{ id := [103], args := [[111]] }] [sub]
    c.wfTreeB 3 = true ∧ c.height ≤ 3 := by
  decide

end Clap.C01

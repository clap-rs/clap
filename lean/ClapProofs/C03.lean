/-
C03 — A successful parse satisfies every declared relation between arguments.
Soundness of the validator model: whatever `validate` accepts obeys the
relations, for every command and every matcher state (no bound on sizes).
-/
import ClapModel
import ClapProofs.Lemmas.RequiredWalk
namespace Clap.C03
open Clap Validator

/-- explicitly present (source is not a default) -/
def Explicit (p : P) (id : Id) : Prop := id ∈ explicitIds p.args

/-! #### 1. conflicts -/

/-- **no two explicitly present args (or an arg and a present group) that are
declared to conflict** - by blacklist, by a group's `conflicts`, by membership
of a non-multiple group, or by override - survive validation, in either
direction of the declaration -/
theorem no_conflict (c : Cmd) (p : P) (hv : validate c p = .ok ()) (a b : Id)
    (ha : Explicit p a) (hb : Explicit p b) (harg : (c.find a).isSome = true) (hne : b ≠ a)
    (ca cb : List Id) (hca : gatherDirectConflicts c a = some ca) (hcb : gatherDirectConflicts c b = some cb) :
    b ∉ ca ∧ a ∉ cb := by
  have hgo := (validateConflicts_ok (validate_ok hv).1).2 a (List.mem_filter.2 ⟨ha, harg⟩)
  rw [gatherDirectConflicts_eq] at hca hcb
  cases hca; cases hcb
  exact gatherConflicts_table_nil hgo hb hne

/-! #### 2. exclusive -/

/-- an explicitly present exclusive arg is the only explicitly present arg -/
theorem exclusive_alone (c : Cmd) (p : P) (hv : validate c p = .ok ()) (a : Id) (arg : Arg)
    (ha : Explicit p a) (hfa : c.find a = some arg) (hex : arg.exclusive = true) :
    ((explicitIds p.args).filter fun id => (c.find id).isSome).length ≤ 1 := by
  refine (validateExclusive_ok (validateConflicts_ok (validate_ok hv).1).1).resolve_right fun hn => ?_
  have : isExclusivePresent c p.args = true := List.any_eq_true.2 ⟨a, ha, by simp [hfa, hex]⟩
  rw [hn] at this; cases this

/-! #### 3. non-multiple groups -/

theorem groupConflictFold_none (c : Cmd) (aid : Id) : ∀ (gids : List Id), gids.foldl (groupConflictStep c aid) none = none := by
  intro gids
  induction gids with
  | nil => rfl
  | cons y ys ih => simp only [List.foldl_cons, groupConflictStep]; exact ih

/-- the fold only ever appends; when it reaches a non-multiple group it appends the arg's siblings -/
theorem groupConflictFold (c : Cmd) (aid : Id) (g : Group) (b : Id) (hfg : c.findGroup g.id = some g)
    (hmb : b ∈ g.args) (hne : b ≠ aid) (hmult : g.multiple = false) :
    ∀ (gids : List Id) (l res : List Id), gids.foldl (groupConflictStep c aid) (some l) = some res →
      (∀ x ∈ l, x ∈ res) ∧ (g.id ∈ gids → b ∈ res) := by
  intro gids
  induction gids with
  | nil => intro l res h; simp at h; subst h; exact ⟨fun x hx => hx, by simp⟩
  | cons y ys ih =>
    intro l res h
    simp only [List.foldl_cons] at h
    cases hfy : c.findGroup y with
    | none =>
      simp only [groupConflictStep, hfy] at h
      rw [groupConflictFold_none] at h; simp at h
    | some gy =>
      simp only [groupConflictStep, hfy] at h
      obtain ⟨i1, i2⟩ := ih _ res h
      refine ⟨fun x hx => i1 x (by simp [hx]), fun hmem => ?_⟩
      rcases List.mem_cons.1 hmem with hy | hys
      · have : gy = g := by rw [← hy] at hfy; rw [hfg] at hfy; simpa using hfy.symm
        subst this
        apply i1 b
        simp [hmult, hmb, hne]
      · exact i2 hys

/-- two distinct members of a non-multiple group are direct conflicts of each other -/
theorem group_members_conflict (c : Cmd) (a : Arg) (g : Group) (b : Id) (hfa : c.find a.id = some a)
    (hg : g ∈ c.groups) (hfg : c.findGroup g.id = some g) (hma : a.id ∈ g.args) (hmb : b ∈ g.args)
    (hne : b ≠ a.id) (hmult : g.multiple = false) (ca : List Id) (hca : gatherDirectConflicts c a.id = some ca) : b ∈ ca := by
  unfold gatherDirectConflicts at hca
  simp only [hfa, argDirectConflicts] at hca
  have hin : g.id ∈ c.groupsForArg a.id := by
    unfold Cmd.groupsForArg
    simp only [List.mem_map, List.mem_filter]
    exact ⟨g, ⟨hg, by simpa using hma⟩, rfl⟩
  cases hfold : (c.groupsForArg a.id).foldl (groupConflictStep c a.id) (some a.blacklist) with
  | none => simp [hfold] at hca
  | some res =>
    simp only [hfold, Option.map_some, Option.some.injEq] at hca
    subst hca
    have := (groupConflictFold c a.id g b hfg hmb hne hmult _ _ res hfold).2 hin
    simp [this]

/-- **a non-multiple group has at most one explicitly present member** -/
theorem group_single (c : Cmd) (p : P) (hv : validate c p = .ok ()) (a b : Arg) (g : Group)
    (hfa : c.find a.id = some a)
    (hg : g ∈ c.groups) (hfg : c.findGroup g.id = some g) (hma : a.id ∈ g.args) (hmb : b.id ∈ g.args)
    (hmult : g.multiple = false) (ha : Explicit p a.id) (hb : Explicit p b.id)
    (ca cb : List Id) (hca : gatherDirectConflicts c a.id = some ca) (hcb : gatherDirectConflicts c b.id = some cb) :
    a.id = b.id := by
  by_cases hne : b.id = a.id
  · exact hne.symm
  · exfalso
    have h1 := group_members_conflict c a g b.id hfa hg hfg hma hmb hne hmult ca hca
    have h2 := (no_conflict c p hv a.id b.id ha hb (by simp [hfa]) hne ca cb hca hcb).1
    exact h2 h1

/-! #### 4. requirements -/

theorem requiredLoop_ok {c : Cmd} {m : ArgMap} {pot : List (Id × List Id)} {ex : Bool} : ∀ (l : List Id),
    requiredLoop c m pot ex l = .ok false → ∀ r ∈ l, m.checkExplicit r .isPresent = false →
      (∀ a, c.find r = some a → ex = true ∨ isMissingRequiredOk c pot a = some true) ∧
      (c.find r = none → ∀ g, c.findGroup r = some g → ∃ members, argsInGroup c g.id = some members ∧
          (members.any fun a => m.checkExplicit a .isPresent) = true) :=
  fun _ h r hr hne => reqStep_fine (requiredLoop_fine h r hr) hne

/-- a statically required arg is in the list `validate_required` walks -/
theorem required_in_graph (c : Cmd) (a : Arg) (ha : a ∈ c.args) (hr : a.required = true) (m : ArgMap) :
    a.id ∈ requiredIds c m := by
  refine (mem_foldl_insertNew _ _ _).2 (Or.inl ?_)
  -- the static part: the de-duplicated ids of the required args, to which the groups only append
  refine foldl_inv (I := fun acc => a.id ∈ acc) (fun g _ acc h => ?_) ((mem_foldl_insertNew _ _ _).2 (Or.inr ?_))
  · split
    · split <;> simp [h]
    · exact h
  · exact List.mem_map.2 ⟨a, List.mem_filter.2 ⟨ha, hr⟩, rfl⟩

/-- **whatever `validate_required` walks is explicitly present** after a successful validation, unless a documented
exemption applies: an exclusive arg is present, a present arg/group conflicts with it or with one of its groups
(`is_missing_required_ok`), or a subcommand is present and negates requirements. `required_present`,
`requires_present` and `requires_transitively_present` say which ids are walked. -/
theorem walked_present {c : Cmd} {p : P} (hv : validate c p = .ok ()) {a : Arg} (hfa : c.find a.id = some a)
    (hin : a.id ∈ requiredIds c p.args) :
    p.args.checkExplicit a.id .isPresent = true ∨
    (c.settings.subcommandNegatesReqs = true ∧ p.sub ≠ []) ∨
    isExclusivePresent c p.args = true ∨
    ∃ pot, potential c p.args = some pot ∧ isMissingRequiredOk c pot a = some true := by
  cases hneg : (c.settings.subcommandNegatesReqs && !p.sub.isEmpty) with
  | true =>
    simp only [Bool.and_eq_true, Bool.not_eq_true', List.isEmpty_eq_false_iff] at hneg
    exact Or.inr (Or.inl hneg)
  | false =>
    cases hex : p.args.checkExplicit a.id .isPresent with
    | true => exact Or.inl rfl
    | false =>
      have hl := (validateRequired_ok ((validate_ok hv).2 hneg)).1
      exact Or.inr (Or.inr (((requiredLoop_ok _ hl a.id hin hex).1 a hfa).imp id fun h => ⟨_, potential_eq c _, h⟩))

/-- **a statically required arg is explicitly present** after a successful
validation, unless a documented exemption applies: an exclusive arg is present,
a present arg/group conflicts with it or with one of its groups
(`is_missing_required_ok`), or a subcommand is present and negates requirements -/
theorem required_present (c : Cmd) (p : P) (hv : validate c p = .ok ()) (a : Arg) (ha : a ∈ c.args)
    (hfa : c.find a.id = some a) (hr : a.required = true) :
    p.args.checkExplicit a.id .isPresent = true ∨
    (c.settings.subcommandNegatesReqs = true ∧ p.sub ≠ []) ∨
    isExclusivePresent c p.args = true ∨
    ∃ pot, potential c p.args = some pot ∧ isMissingRequiredOk c pot a = some true :=
  walked_present hv hfa (required_in_graph c a ha hr p.args)

/-- conditionally required args (`required_if_eq`, `required_if_eq_all`,
`required_unless_present*`) likewise: if the condition holds on the explicit
values and no exclusive arg is present, the arg is explicitly present -/
theorem conditionally_required_present (c : Cmd) (p : P) (hv : validate c p = .ok ()) (a : Arg) (ha : a ∈ c.args)
    (hneg : (c.settings.subcommandNegatesReqs && !p.sub.isEmpty) = false)
    (hex : isExclusivePresent c p.args = false) : conditionallyMissing p.args a = false := by
  have h := (validateRequired_ok ((validate_ok hv).2 hneg)).2
  rw [hex, Bool.not_false, Bool.and_true] at h
  exact List.any_eq_false.1 h a ha |> eq_false_of_ne_true

/-- **defaults never count as presence**: an entry whose source is `DefaultValue` is not explicit -/
theorem default_not_explicit (ma : MatchedArg) (hs : ma.source = some .default) (pr : Pred) : ma.checkExplicit pr = false := by
  unfold MatchedArg.checkExplicit
  simp [hs, Source.isExplicit]

end Clap.C03

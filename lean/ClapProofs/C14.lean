/-
C14 — OS-string helpers and the argument cursor behave like their simple models.
-/
import ClapProofs.Lemmas.L0
namespace Clap.C14
open Clap Bytes OsStrExt

/-! #### 1. helpers = the same operation on the underlying bytes -/

/-- `find` returns the least byte offset at which the needle occurs -/
theorem find_spec (h n : Bytes) (i : Nat) :
    find h n = some i ↔ (∃ t, h.drop i = n ++ t) ∧ ∀ j, j < i → ¬ ∃ t, h.drop j = n ++ t := by
  simp only [← startsWith_iff, Bool.not_eq_true]
  exact find_eq_some_iff h n i

theorem find_none_spec (h n : Bytes) : find h n = none ↔ ∀ j, ¬ ∃ t, h.drop j = n ++ t := by
  simp only [← startsWith_iff, Bool.not_eq_true]
  exact find_none_iff h n

theorem contains_spec (h n : Bytes) : contains h n = true ↔ ∃ j t, h.drop j = n ++ t := by
  simp only [← startsWith_iff]
  unfold contains
  cases hf : find h n with
  | none => simpa using find_none hf
  | some i => simpa using ⟨i, (find_some hf).1⟩

theorem startsWith_spec (h p : Bytes) : startsWith h p = true ↔ ∃ t, h = p ++ t := startsWith_iff h p

theorem stripPrefix_spec (h p t : Bytes) : stripPrefix h p = some t ↔ h = p ++ t := stripPrefix_eq_some h p t

/-- `split_once` cuts around the first occurrence -/
theorem splitOnce_spec (h n a b : Bytes) (hs : splitOnce h n = some (a, b)) :
    h = a ++ n ++ b ∧ find h n = some a.length := by
  obtain ⟨h1, h3⟩ := splitOnce_some hs
  refine ⟨h1, ?_⟩
  rw [find_eq_some_iff]
  refine ⟨?_, h3⟩
  rw [startsWith_iff]
  exact ⟨b, by rw [h1]; simp⟩

theorem splitOnce_none_spec (h n : Bytes) : splitOnce h n = none ↔ find h n = none := by
  unfold splitOnce
  cases find h n <;> simp

/-! #### 2. `split` -/

def join (n : Bytes) : List Bytes → Bytes
  | [] => []
  | [p] => p
  | p :: q :: ps => p ++ n ++ join n (q :: ps)

theorem splitFuel_spec (n : Bytes) (hn : n ≠ []) : ∀ (k : Nat) (h : Bytes), h.length < k →
    join n (splitFuel n k h) = h ∧ (∀ p ∈ splitFuel n k h, find p n = none) ∧ splitFuel n k h ≠ []
  | 0, h, hk => by omega
  | k+1, h, hk => by
    unfold splitFuel
    cases hs : splitOnce h n with
    | none => exact ⟨rfl, by simpa using (splitOnce_none_spec h n).1 hs, by simp⟩
    | some p =>
      obtain ⟨a, b⟩ := p
      obtain ⟨h1, h3⟩ := splitOnce_some hs
      have hb : b.length < k := by
        have := congrArg List.length h1
        have := List.length_pos_iff.2 hn
        simp only [List.length_append] at *
        omega
      obtain ⟨ih1, ih2, ih3⟩ := splitFuel_spec n hn k b hb
      simp only
      refine ⟨?_, ?_, by simp⟩
      · cases hsf : splitFuel n k b with
        | nil => exact absurd hsf ih3
        | cons q qs => rw [hsf] at ih1; simp [join, ih1, h1]
      · intro p hp
        rcases List.mem_cons.1 hp with rfl | hp
        · exact find_prefix_none hn (rest := n ++ b) (by rw [← List.append_assoc, ← h1]; exact h3)
        · exact ih2 p hp

/-- for a non-empty needle `split` terminates, its pieces joined by the needle
give back the haystack, and no piece contains the needle; the empty needle is
the documented panic (`none`). -/
theorem split_spec (h n : Bytes) :
    (n = [] → split h n = none) ∧
    (n ≠ [] → ∃ ps, split h n = some ps ∧ join n ps = h ∧ ∀ p ∈ ps, find p n = none) := by
  constructor
  · intro hn; simp [split, hn]
  · intro hn
    have hne : n.isEmpty = false := by cases n with | nil => exact absurd rfl hn | cons _ _ => rfl
    obtain ⟨h1, h2, _⟩ := splitFuel_spec n hn (h.length + 1) h (by omega)
    exact ⟨_, by simp [split, hne], h1, h2⟩

example : split [0x61, 0x2C, 0x2C, 0x62] [0x2C] = some [[0x61], [], [0x62]] := by decide +kernel


/-! #### 3. the cursor refines "an index into a growable list" -/

namespace Spec
open RawArgs

/-- the abstract cursor: a list and a position; a position at or past the end
reads nothing.  No machine arithmetic. -/
structure S where
  items : List Bytes
  k : Nat
deriving Repr

def clamp (x : Int) (len : Nat) : Nat := min (max x 0).toNat len

def step (s : S) : Op → S × Res
  | .next => ({ s with k := s.k + 1 }, .item s.items[s.k]?)
  | .peek => (s, .item s.items[s.k]?)
  | .isEnd => (s, .bool s.items[s.k]?.isNone)
  | .remaining => ({ s with k := s.items.length }, .items (s.items.drop s.k))
  | .seek (.start p) => ({ s with k := min p s.items.length }, .unit)
  | .seek (.fromEnd p) => ({ s with k := clamp (s.items.length + p) s.items.length }, .unit)
  | .seek (.current p) => ({ s with k := clamp (s.k + p) s.items.length }, .unit)
  | .insert xs => ({ s with items := s.items.take s.k ++ xs ++ s.items.drop s.k }, .unit)

def run : S → List Op → List Res
  | _, [] => []
  | s, op :: ops => (step s op).2 :: run (step s op).1 ops

end Spec

open RawArgs

/-- offsets are genuine `i64` values -/
def OpOk : Op → Prop
  | .seek (.fromEnd p) => i64Min ≤ p ∧ p ≤ i64Max
  | .seek (.current p) => i64Min ≤ p ∧ p ≤ i64Max
  | _ => True

/-- what an op can add to the list -/
def grow : Op → Nat
  | .insert xs => xs.length
  | _ => 0

/-- the concrete state corresponds to the abstract one -/
def Rel (c : State) (a : Spec.S) : Prop := c.items = a.items ∧ c.cursor = a.k

/-- the largest number the machine arithmetic has to represent -/
def size (c : State) : Nat := max c.cursor c.items.length

-- `saturating_add` is the exact sum cut to the `i64` range
theorem satAddI64_eq (a b : Int) : satAddI64 a b = max i64Min (min i64Max (a + b)) := by
  unfold satAddI64
  simp only
  split
  · next h => rw [Int.min_eq_left (Int.le_of_lt h), Int.max_eq_right (by decide)]
  · next h =>
    rw [Int.min_eq_right (Int.not_lt.1 h)]
    split
    · next h' => exact (Int.max_eq_left (Int.le_of_lt h')).symm
    · next h' => exact (Int.max_eq_right (Int.not_lt.1 h')).symm

namespace Spec

theorem clamp_le (x : Int) (len : Nat) : clamp x len ≤ len := Nat.min_le_right ..

-- cutting to `[lo, hi] ⊇ [0, len]` first changes nothing
theorem clamp_cut (x lo hi : Int) (len : Nat) (hlo : lo ≤ 0) (hhi : len ≤ hi) :
    clamp (max lo (min hi x)) len = clamp x len := by
  unfold clamp
  rw [Int.max_assoc, Int.max_eq_right (Int.le_trans hlo (Int.le_max_right ..))]
  by_cases h : x ≤ hi
  · rw [Int.min_eq_right h]
  · have h' : hi ≤ x := by omega
    rw [Int.min_eq_left h', Nat.min_eq_right (by omega), Nat.min_eq_right (by omega)]

theorem step_ne_panic (a : S) (op : Op) : (step a op).2 ≠ .panic := by
  cases op with
  | seek sk => cases sk <;> simp [step]
  | _ => simp [step]

-- `m` stands for `size`; a variable keeps `max` out of the arithmetic
theorem step_size (a : S) (op : Op) (m : Nat) (hk : a.k ≤ m) (hl : a.items.length ≤ m) :
    (step a op).1.k ≤ m + grow op + 1 ∧ (step a op).1.items.length ≤ m + grow op + 1 := by
  cases op with
  | seek sk =>
    cases sk with
    | start p => simp only [step, grow]; omega
    | fromEnd p => have := clamp_le (a.items.length + p) a.items.length; simp only [step, grow]; omega
    | current p => have := clamp_le (a.k + p) a.items.length; simp only [step, grow]; omega
  | insert xs =>
    have := congrArg List.length (List.take_append_drop a.k a.items)
    simp only [step, grow, List.length_append] at this ⊢
    omega
  | _ => simp only [step, grow] <;> omega

end Spec

-- with position and length below 2^63 the `i64` saturation is invisible: whatever it cuts off,
-- the cut to `[0, len]` cuts off too (`p` need not even be an `i64`)
theorem seek_clamp (n : Nat) {len : Nat} (p : Int) (hn : n < 2^63) (hl : len < 2^63) :
    min (max (satAddI64 (asI64 n) p) 0).toNat len = Spec.clamp (n + p) len := by
  rw [show asI64 n = n from if_pos hn, satAddI64_eq]
  exact Spec.clamp_cut _ _ _ _ (by decide) (by unfold i64Max; omega)

-- below 2^63 the machine step *is* the abstract step
theorem step_eq (items : List Bytes) (k : Nat) (op : Op) (hk : k + 1 < 2^63) (hl : items.length < 2^63) :
    step ⟨items, k⟩ op = (⟨(Spec.step ⟨items, k⟩ op).1.items, (Spec.step ⟨items, k⟩ op).1.k⟩, (Spec.step ⟨items, k⟩ op).2) := by
  cases op with
  | next => simp only [step, Spec.step, Nat.min_eq_left (show k + 1 ≤ usizeMax by unfold usizeMax; omega)]
  | peek | isEnd => rfl
  | remaining => simp only [step, Spec.step, ← List.drop_eq_drop_min]
  | insert xs => simp only [step, Spec.step, ← List.drop_eq_drop_min, ← List.take_eq_take_min]
  | seek sk =>
    cases sk with
    | start p => rfl
    | fromEnd p => simp only [step, Spec.step, seekPos, seek_clamp _ p hl hl]
    | current p => simp only [step, Spec.step, seekPos, seek_clamp k p (by omega) hl]

theorem step_refines (c : State) (a : Spec.S) (op : Op) (hr : Rel c a)
    (hsmall : size c + grow op + 1 < 2^63) :
    (step c op).2 = (Spec.step a op).2 ∧ (step c op).2 ≠ .panic ∧ Rel (step c op).1 (Spec.step a op).1 ∧
      size (step c op).1 ≤ size c + grow op + 1 := by
  obtain ⟨items, k⟩ := c
  obtain ⟨_, _⟩ := a
  obtain ⟨rfl, rfl⟩ := hr
  have hk : k ≤ size ⟨items, k⟩ := Nat.le_max_left ..
  have hl : items.length ≤ size ⟨items, k⟩ := Nat.le_max_right ..
  rw [step_eq items k op (by omega) (by omega)]
  exact ⟨rfl, Spec.step_ne_panic _ op, ⟨rfl, rfl⟩, Nat.max_le.2 (Spec.step_size _ op _ hk hl)⟩

theorem run_cons {c : State} {op : Op} (ops : List Op) (h : (step c op).2 ≠ .panic) :
    run c (op :: ops) = (step c op).2 :: run (step c op).1 ops := by
  rw [run]
  split
  · next heq => exact absurd (congrArg Prod.snd heq) h
  · next heq => rw [heq]

/-- total list growth of a history -/
def totalGrow : List Op → Nat
  | [] => 0
  | op :: ops => grow op + totalGrow ops

/-- **refinement over every finite operation sequence**: as long as positions and
list length stay below 2^63 (the list cannot be larger in memory; every op adds
at most one to the position) and offsets are `i64`s, every observable result
equals the abstract cursor's and no operation panics. -/
theorem cursor_refines_index (ops : List Op) : ∀ (c : State) (a : Spec.S), Rel c a →
    (∀ op ∈ ops, OpOk op) → size c + ops.length + totalGrow ops + 1 < 2^63 →
    run c ops = Spec.run a ops ∧ Res.panic ∉ run c ops := by
  induction ops with
  | nil => intro c a _ _ _; exact ⟨rfl, List.not_mem_nil⟩
  | cons op ops ih =>
    intro c a hr hops hsmall
    simp only [totalGrow, List.length_cons] at hsmall
    obtain ⟨h1, h2, h3, h4⟩ := step_refines c a op hr (by omega)
    obtain ⟨ih1, ih2⟩ := ih _ _ h3 (fun o ho => hops o (List.mem_cons_of_mem _ ho)) (by omega)
    rw [run_cons ops h2, Spec.run, h1, ih1]
    exact ⟨rfl, fun hmem => (List.mem_cons.1 hmem).elim (fun h => h2 (h1 ▸ h.symm)) (ih1 ▸ ih2)⟩

/-- non-vacuity: running past the end and then asking for the rest is fine -/
example : run ⟨[[0x61], [0x62]], 0⟩ [.next, .next, .next, .remaining, .insert [[0x63]], .seek (.current (-1)), .peek]
    = [.item (some [0x61]), .item (some [0x62]), .item none, .items [], .unit, .unit, .item (some [0x62])] := by decide +kernel

end Clap.C14

/-
C01 — Parsing is total: any argv against any valid command returns, never
panics, never loops; with error-ignoring the result is matches except for an
explicit help/version request.
Here: termination, `_do_parse`, and the reaction to one occurrence (`react`, `resolve_pending`). What the handlers
of one token answer is in C01Loop; the token loop, the env and default passes and the descent are in C01Total.
-/
import ClapModel
import ClapProofs.Lemmas.Matcher
import ClapProofs.Lemmas.Outcome
namespace Clap.C01
open Clap Parser

/-! #### 1. termination: the descent into subcommands is bounded by the tree height -/

theorem heightList_ge {sc : Cmd} : ∀ (l : List Cmd), sc ∈ l → sc.height ≤ Cmd.heightList l := by
  intro l
  induction l with
  | nil => intro h; simp at h
  | cons x xs ih =>
    intro h
    simp only [Cmd.heightList]
    rcases List.mem_cons.1 h with rfl | h
    · omega
    · have := ih h; omega

theorem height_sub (c sc : Cmd) (h : sc ∈ c.subs) : sc.height < c.height := by
  cases c with
  | mk n a s l sa la st ar g subs =>
    simp only [Cmd.subs] at h
    simp only [Cmd.height]
    have := heightList_ge subs h
    omega

theorem findSubcommand_mem {c sc : Cmd} {n : Bytes} (h : c.findSubcommand n = some sc) : sc ∈ c.subs := by
  unfold Cmd.findSubcommand at h
  exact List.mem_of_find?_eq_some h

/-- if the descent terminates on every child, one level of parsing terminates -/
theorem core_terminates (similar : Bytes → Bytes → Bool) (descend : Descend) (c : Cmd)
    (hd : ∀ sc ∈ c.subs, ∀ toks p, (descend sc toks p).isSome) (toks : List Bytes) (p : P) :
    (getMatchesWithCore similar descend c toks p).isSome := by
  have hsub : ∀ name rest keep p, (parseSub descend c name rest keep p).isSome := by
    intro name rest keep p
    unfold parseSub
    split
    · rfl
    · next sc hf =>
      simp only
      generalize (if keep = true then _ else _ : P) = p0
      have h1 := hd sc (findSubcommand_mem hf) rest p0
      split
      · next hdesc => rw [hdesc] at h1; cases h1
      · split
        · rfl
        · split <;> rfl
      · rfl
  have hparse : (parse similar descend c toks p).isSome := by
    unfold parse
    split
    · rfl
    · rfl
    · rfl
    · split
      · rfl
      · exact hsub _ _ _ _
  unfold getMatchesWithCore
  split
  · next hp => rw [hp] at hparse; cases hparse
  · split <;> rfl
  · split
    · rfl
    · split
      · rfl
      · split
        · rfl
        · split <;> rfl

/-- **parsing terminates**: with fuel at least the height of the command tree
(minus one) the parser never runs out of fuel, for every argv and every state -/
theorem getMatchesWith_terminates (similar : Bytes → Bytes → Bool) :
    ∀ (fuel : Nat) (c : Cmd), c.height ≤ fuel + 1 → ∀ toks p, (getMatchesWith similar fuel c toks p).isSome := by
  intro fuel
  induction fuel with
  | zero =>
    intro c hc toks p
    simp only [getMatchesWith]
    apply core_terminates
    intro sc hsc
    have := height_sub c sc hsc
    have hpos : 1 ≤ sc.height := by cases sc; simp [Cmd.height]
    omega
  | succ n ih =>
    intro c hc toks p
    simp only [getMatchesWith]
    apply core_terminates
    intro sc hsc toks' p'
    have := height_sub c sc hsc
    exact ih sc (by omega) toks' p'

/-- `_do_parse` returns exactly when the parser does -/
theorem doParse_isSome (similar : Bytes → Bytes → Bool) (fuel : Nat) (c : Cmd) (toks : List Bytes) :
    (Command.doParse similar fuel c toks).isSome = (getMatchesWith similar fuel c toks {}).isSome := by
  unfold Command.doParse
  split
  · next h => rw [h]; rfl
  · next p r h =>
    rw [h]
    simp only
    split
    · rfl
    · split
      · rfl
      · split <;> rfl

/-- an error of `_do_parse` is the parser's own, and error-ignoring lets only a panic or a kind that does not use
stderr through -/
theorem doParse_error {similar : Bytes → Bytes → Bool} {fuel : Nat} {c : Cmd} {toks : List Bytes} {e : EK}
    (h : Command.doParse similar fuel c toks = some (.error e)) :
    ∃ p, getMatchesWith similar fuel c toks {} = some (p, .error e) ∧
      ((c.settings.ignoreErrors && e.useStderr) = true → ∃ site, e = .panic site) := by
  unfold Command.doParse at h
  split at h
  · cases h
  · next p r hg =>
    simp only at h
    split at h
    · cases h
    · next e' =>
      split at h
      · next site => cases h; exact ⟨p, hg, fun _ => ⟨site, rfl⟩⟩
      · split at h
        · cases h
        · next hc => cases h; exact ⟨p, hg, fun hc' => absurd hc' hc⟩

/-- `_do_parse` terminates -/
theorem doParse_terminates (similar : Bytes → Bytes → Bool) (fuel : Nat) (c : Cmd) (h : c.height ≤ fuel + 1)
    (toks : List Bytes) : (Command.doParse similar fuel c toks).isSome := by
  rw [doParse_isSome]
  exact getMatchesWith_terminates similar fuel c h toks {}

/-! #### 2. error-ignoring: matches for every input except explicit help / version -/

/-- help and version are the only kinds that do not use stderr -/
theorem useStderr_iff (e : EK) : e.useStderr = false ↔ e = .displayHelp ∨ e = .displayVersion := by
  cases e <;> simp [EK.useStderr]

/-- with `ignore_errors`, `_do_parse` returns matches unless the error is a help
or version request (or an internal panic, excluded by C01's other theorems) -/
theorem ignore_errors_ok (similar : Bytes → Bytes → Bool) (fuel : Nat) (c : Cmd) (toks : List Bytes)
    (hi : c.settings.ignoreErrors = true) (e : EK)
    (h : Command.doParse similar fuel c toks = some (.error e)) :
    e = .displayHelp ∨ e = .displayVersion ∨ ∃ site, e = .panic site := by
  obtain ⟨_, _, hpanic⟩ := doParse_error h
  cases hu : e.useStderr
  · rcases (useStderr_iff e).1 hu with h' | h'
    · exact Or.inl h'
    · exact Or.inr (Or.inl h')
  · exact Or.inr (Or.inr (hpanic (by rw [hi, hu]; rfl)))

/-! #### 3. the `expect`s and `unreachable!`s of the occurrence machinery are dead -/

def isPanic : EK → Bool
  | .panic _ => true
  | _ => false

theorem isPanic_ite {p : Prop} [Decidable p] {x y : EK} (hx : isPanic x = false) (hy : isPanic y = false) :
    isPanic (if p then x else y) = false := by
  split <;> assumption

/-- no error of `x` is a panic -/
def NoPanic {α : Type} (x : Except EK α) : Prop := ∀ e, x = .error e → isPanic e = false

theorem NoPanic.ok {α : Type} (a : α) : NoPanic (.ok a : Except EK α) := fun _ h => nomatch h

theorem NoPanic.error {α : Type} {e : EK} (h : isPanic e = false) : NoPanic (.error e : Except EK α) :=
  fun _ h' => by cases h'; exact h

theorem NoPanic.ite {α : Type} {p : Prop} [Decidable p] {x y : Except EK α} (hx : NoPanic x) (hy : NoPanic y) :
    NoPanic (if p then x else y) := by
  split <;> assumption

theorem liftVRes_not_panic {α : Type} (r : Values.VRes α) (e : EK) (h : liftVRes r = .error e) : isPanic e = false := by
  cases r with
  | ok v => simp [liftVRes] at h
  | err ve => simp [liftVRes] at h; subst h; cases ve <;> rfl

/-- value parsers only ever produce value errors -/
theorem parseValue_not_panic (a : Arg) (raw : Bytes) (e : EK) (h : parseValue a raw = .error e) : isPanic e = false := by
  unfold parseValue at h
  split at h
  · split at h <;> simp at h; subst h; rfl
  · simp at h
  · exact liftVRes_not_panic _ e h
  · exact liftVRes_not_panic _ e h
  · exact liftVRes_not_panic _ e h
  · exact liftVRes_not_panic _ e h
  · split at h
    · simp at h; subst h; rfl
    · split at h <;> simp at h; subst h; rfl

theorem reactFinish_no_panic (c : Cmd) (a : Arg) (source : Source) (p : P) (vs : List Bytes) (e : EK)
    (h : (reactFinish c a source p vs).2 = .error e) : isPanic e = false := by
  obtain ⟨raw, _, hp⟩ := reactFinish_error c a source p vs e h
  exact parseValue_not_panic a raw e hp

theorem verifyNumArgs_no_panic (c : Cmd) (a : Arg) (n : Nat) (e : EK) (h : verifyNumArgs c a n = .error e) :
    isPanic e = false := by
  have key : NoPanic (verifyNumArgs c a n) := by
    unfold verifyNumArgs
    refine .ite (.ok _) (.ite (.error rfl) ?_)
    cases a.getNumArgs.numValues with
    | some e => exact .ite (.error rfl) (.ok _)
    | none => exact .ite (.error rfl) (.ite (.error rfl) (.ok _))
  exact key e h

/-- **`react` never panics**: after its leading `resolve_pending`, the `expect`s behind `add_val_to` /
`add_index_to` / `append_val` are dead, for every command, arg, source and state -/
theorem reactCore_no_panic (c : Cmd) (ident : Option Ident) (source : Source) (a : Arg) (vals : List Bytes)
    (t : Option Nat) (p : P) (e : EK) (h : (reactCore c ident source a vals t p).2 = .error e) : isPanic e = false := by
  rcases reactCore_cases c ident source a vals t p with ⟨e', h', hk⟩ | ⟨p0, vs, _, ⟨h', _⟩ | h' | h'⟩ <;> rw [h'] at h
  · cases h
    rcases hk with ⟨_, hv⟩ | ⟨rfl, _⟩ | ⟨rfl, _⟩
    · exact verifyNumArgs_no_panic _ _ _ _ hv
    · rfl
    · rfl
  · cases h; rfl
  · exact reactFinish_no_panic _ _ _ _ _ _ h
  · exact reactFinish_no_panic _ _ _ _ _ _ h

/-- what `react` hands back to the token loop is `ValuesDone` or an error - the
`debug_assert_eq!(react_result, ValuesDone)`s of `parse_opt_value` always hold -/
theorem reactCore_result (c : Cmd) (ident : Option Ident) (source : Source) (a : Arg) (vals : List Bytes)
    (t : Option Nat) (p : P) (r : ParseResult) (h : (reactCore c ident source a vals t p).2 = .ok r) : r = .valuesDone := by
  have fin : ∀ p0 vs, (reactFinish c a source p0 vs).2 = .ok r → r = .valuesDone := by
    intro p0 vs h
    rw [reactFinish_eq] at h
    cases hp : (pushArgValues a vs { p0 with args := startArgs c a source p0.args }).2 with
    | error e => rw [hp] at h; cases h
    | ok u => rw [hp] at h; cases h; rfl
  rcases reactCore_cases c ident source a vals t p with ⟨e', h', _⟩ | ⟨p0, vs, _, ⟨h', _⟩ | h' | h'⟩ <;> rw [h'] at h
  · cases h
  · cases h
  · exact fin _ _ h
  · exact fin _ _ h

theorem reactCore_out (c : Cmd) (ident : Option Ident) (s : Source) (a : Arg) (vals : List Bytes) (t : Option Nat)
    (p : P) : Out p.Stored (isPanic · = false) (fun _ r => r = .valuesDone) (reactCore c ident s a vals t p) :=
  .intro (reactCore_stored ..) (reactCore_no_panic c ident s a vals t p) (reactCore_result c ident s a vals t p)

/-! the pending buffer -/

theorem reactCore_pending (c : Cmd) (ident : Option Ident) (source : Source) (a : Arg) (vals : List Bytes)
    (t : Option Nat) (p : P) : (reactCore c ident source a vals t p).1.pending = p.pending :=
  (reactCore_stored c ident source a vals t p).pending

/-- the pending arg (if any) is an argument of the command being parsed -/
def PendingOk (c : Cmd) (p : P) : Prop := ∀ pd, p.pending = some pd → (c.find pd.id).isSome = true

theorem PendingOk.of_none {c : Cmd} {p : P} (h : p.pending = none) : PendingOk c p := by
  intro pd hpd; rw [h] at hpd; cases hpd

end Clap.C01

/-! what `resolve_pending` and `react` compute -/
namespace Clap
open Parser

theorem resolvePending_none (c : Cmd) (q : P) (h : q.pending = none) : resolvePending c q = (q, .ok ()) := by
  unfold resolvePending; rw [h]

theorem resolvePending_some {c : Cmd} {p : P} {pd : Pending} {a : Arg} (hpd : p.pending = some pd)
    (hf : c.find pd.id = some a) :
    resolvePending c p =
      (let r := reactCore c pd.ident .cmdline a pd.rawVals pd.trailingIdx { p with pending := none }
       (r.1, r.2.map fun _ => ())) := by
  unfold resolvePending
  simp only [hpd, hf]

theorem react_none (c : Cmd) (i : Option Ident) (s : Source) (a : Arg) (vals : List Bytes) (t : Option Nat) (q : P)
    (h : q.pending = none) : react c i s a vals t q = reactCore c i s a vals t q := by
  unfold react; rw [resolvePending_none c q h]

theorem reactCore_stored_of_eq {c : Cmd} {i : Option Ident} {s : Source} {a : Arg} {vals : List Bytes} {t : Option Nat}
    {q p1 : P} {r : Except EK ParseResult} (h : reactCore c i s a vals t q = (p1, r)) : q.Stored p1 := by
  have := reactCore_stored c i s a vals t q
  rwa [h] at this

theorem resolvePending_stored_of_eq {c : Cmd} {p q : P} {r : Except EK Unit} (h : resolvePending c p = (q, r)) :
    P.Stored { p with pending := none } q := by
  have := resolvePending_stored c p
  rwa [h] at this

theorem resolvePending_ok_pending (c : Cmd) (p q : P) (u : Unit) (hr : resolvePending c p = (q, .ok u)) :
    q.pending = none := by
  have h := (resolvePending_stored c p).pending
  rwa [hr] at h

end Clap

namespace Clap.C01
open Clap Parser

/-- **`resolve_pending`**: the pending buffer is emptied and nothing else but the store and the index changes; it
panics only if the pending id names no arg -/
theorem resolvePending_out (c : Cmd) (p : P) :
    Out (P.Stored { p with pending := none }) (fun e => PendingOk c p → isPanic e = false) (fun _ _ => True)
      (resolvePending c p) := by
  refine .intro (resolvePending_stored c p) (fun e h hp => ?_) (fun _ _ => trivial)
  cases hpd : p.pending with
  | none => rw [resolvePending_none c p hpd] at h; cases h
  | some pd =>
    cases hf : c.find pd.id with
    | none => have := hp pd hpd; rw [hf] at this; cases this
    | some a =>
      rw [resolvePending_some hpd hf] at h
      cases hr : (reactCore c pd.ident .cmdline a pd.rawVals pd.trailingIdx { p with pending := none }).2 with
      | error e' =>
        simp only [hr, Except.map] at h
        cases h
        exact reactCore_no_panic _ _ _ _ _ _ _ _ hr
      | ok r => simp only [hr, Except.map] at h; cases h

/-- `resolve_pending` never panics when the pending id names an arg, and leaves nothing pending -/
theorem resolvePending_spec (c : Cmd) (p : P) (hp : PendingOk c p) :
    (resolvePending c p).1.pending = none ∧ ∀ e, (resolvePending c p).2 = .error e → isPanic e = false :=
  ⟨(resolvePending_stored c p).pending, fun _ h => (resolvePending_out c p).of_error h hp⟩

/-- **`react`**: as `resolve_pending`, and what it hands back to the token loop is `ValuesDone` -/
theorem react_out (c : Cmd) (ident : Option Ident) (s : Source) (a : Arg) (vals : List Bytes) (t : Option Nat) (p : P) :
    Out (P.Stored { p with pending := none }) (fun e => PendingOk c p → isPanic e = false) (fun _ r => r = .valuesDone)
      (react c ident s a vals t p) := by
  refine Out.fst_of (I := fun _ => True) ?_ (react_stored c ident s a vals t p)
  unfold react
  rcases (resolvePending_out c p).elim with ⟨p1, e, hr, _, he⟩ | ⟨p1, _, hr, _, _⟩ <;> simp only [hr]
  · exact Out.error trivial he
  · exact (reactCore_out c ident s a vals t p1).mono (fun _ _ => trivial) (fun _ h _ => h) (fun _ _ _ h => h)

theorem react_result (c : Cmd) (ident : Option Ident) (source : Source) (a : Arg) (vals : List Bytes)
    (t : Option Nat) (p : P) (r : ParseResult) (h : (react c ident source a vals t p).2 = .ok r) : r = .valuesDone :=
  (react_out c ident source a vals t p).of_ok h

/-! `flag_subcmd_skip` is only touched by `parse_short_arg` -/

theorem reactCore_fss (c : Cmd) (ident : Option Ident) (source : Source) (a : Arg) (vals : List Bytes)
    (t : Option Nat) (p : P) : (reactCore c ident source a vals t p).1.flagSubSkip = p.flagSubSkip :=
  (reactCore_stored c ident source a vals t p).flagSubSkip

theorem resolvePending_fss (c : Cmd) (p : P) : (resolvePending c p).1.flagSubSkip = p.flagSubSkip :=
  (resolvePending_stored c p).flagSubSkip

end Clap.C01

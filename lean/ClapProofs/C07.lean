/-
C07 — Occurrences combine by action: last-wins, append-in-order, saturating count.
One-occurrence theorems about `react` (the function every occurrence goes
through), then the n-fold statement for `Count`.
-/
import ClapModel
import ClapProofs.Lemmas.Matcher
namespace Clap.C07
open Clap Parser

/-! #### the decimal rendering of a number reads back as that number -/

theorem digitsVal_append (xs ys : Bytes) : ∀ acc, Values.digitsVal acc (xs ++ ys) = (Values.digitsVal acc xs).bind fun r => Values.digitsVal r ys := by
  induction xs with
  | nil => intro acc; rfl
  | cons x xs ih => intro acc; simp only [List.cons_append, Values.digitsVal]; split <;> simp [ih]

theorem natBytes_digit : ∀ d < 10, natBytes d = [(0x30 + d).toUInt8] := by decide

theorem digitsVal_digit (acc d : Nat) (h : d < 10) : Values.digitsVal acc (natBytes d) = some (acc * 10 + d) := by
  rw [natBytes_digit d h]
  have h1 : (0x30 : UInt8) ≤ (0x30 + d).toUInt8 ∧ (0x30 + d).toUInt8 ≤ 0x39 := by
    simp only [UInt8.le_iff_toNat_le, Nat.toUInt8, UInt8.toNat_ofNat', UInt8.toNat_ofNat]; omega
  have h2 : (0x30 + d).toUInt8.toNat - 0x30 = d := by simp only [Nat.toUInt8, UInt8.toNat_ofNat']; omega
  simp only [Values.digitsVal, h1, and_self, ↓reduceIte, h2]

theorem digitsVal_natBytes (n : Nat) : Values.digitsVal 0 (natBytes n) = some n := by
  induction n using Nat.strongRecOn with
  | _ n ih =>
    by_cases h : n < 10
    · simpa using digitsVal_digit 0 n h
    · -- split off the last digit
      have e : natBytes n = natBytes (n / 10) ++ natBytes (n % 10) := by
        unfold natBytes
        rw [← List.map_append, Nat.toDigits_append_toDigits (by omega) (by omega) (Nat.mod_lt _ (by omega)), Nat.div_add_mod]
      rw [e, digitsVal_append, ih (n / 10) (by omega), Option.bind_some, digitsVal_digit _ _ (Nat.mod_lt _ (by omega))]
      congr 1; omega

/-- the `u8` value parser of a `Count` flag accepts every rendered counter -/
theorem count_parser_isOk : ∀ n < 256,
    ((Values.Ranged.range (Values.Ranged.new false 0 255) (.included 0) (.included 255)).parse (natBytes n)).isOk = true := by
  decide +kernel

theorem count_parser_accepts (n : Nat) (h : n < 256) :
    liftVRes ((Values.Ranged.range (Values.Ranged.new false 0 255) (.included 0) (.included 255)).parse (natBytes n)) = .ok () := by
  have := count_parser_isOk n h
  cases hr : (Values.Ranged.range (Values.Ranged.new false 0 255) (.included 0) (.included 255)).parse (natBytes n) with
  | ok v => rfl
  | err e => rw [hr] at this; simp [Values.VRes.isOk] at this

/-! #### entries are unique per id -/

def cnt (m : ArgMap) (id : Id) : Nat := (m.filter fun p => p.1 == id).length

theorem cnt_eq_sel (m : ArgMap) (id : Id) : cnt m id = (m.sel id).length := rfl

theorem cnt_le_of_sublist {m m' : ArgMap} (h : m'.Sublist m) (id : Id) : cnt m' id ≤ cnt m id :=
  (ArgMap.sel_sublist h id).length_le

theorem cnt_remove_other (m : ArgMap) (id id' : Id) (h : (id' == id) = false) : cnt (ArgMap.remove id' m) id = cnt m id :=
  congrArg List.length (ArgMap.sel_remove_other h m)

theorem cnt_remove_self (m : ArgMap) (id : Id) : cnt (ArgMap.remove id m) id = cnt m id - 1 := by
  rw [cnt_eq_sel, ArgMap.sel_remove_self, List.length_tail]; rfl

theorem cnt_remove_le (m : ArgMap) (id id' : Id) : cnt (ArgMap.remove id' m) id ≤ cnt m id :=
  cnt_le_of_sublist (ArgMap.remove_sublist id' m) id

theorem contains_iff_cnt (m : ArgMap) (id : Id) : m.contains id = true ↔ 0 < cnt m id := by
  rw [cnt_eq_sel, List.length_pos_iff, Ne, ArgMap.sel_eq_nil, Bool.not_eq_false]

theorem cnt_foldl_remove_le (ids : List Id) : ∀ (m : ArgMap) (id : Id),
    cnt (ids.foldl (fun acc o => ArgMap.remove o acc) m) id ≤ cnt m id :=
  fun m => cnt_le_of_sublist (foldl_sublist _ (fun m o => ArgMap.remove_sublist o m) ids m)

theorem cnt_removeOverrides_le (c : Cmd) (a : Arg) (m : ArgMap) (id : Id) : cnt (removeOverrides c a m) id ≤ cnt m id :=
  cnt_le_of_sublist (removeOverrides_sublist c a m) id

/-- the overridden id itself is gone (when it was there at most once) -/
theorem cnt_removeOverridden_self (c : Cmd) (m : ArgMap) (o : Id) (h : cnt m o ≤ 1) : cnt (removeOverridden c m o) o = 0 := by
  unfold removeOverridden
  split
  · have h1 := cnt_le_of_sublist (dropEmptyGroups_sublist c o (ArgMap.remove o m)) o
    have h2 := cnt_remove_self m o
    omega
  · next hc => exact Nat.eq_zero_of_not_pos fun hp => hc ((contains_iff_cnt m o).2 hp)

theorem cnt_update (m : ArgMap) (g : Id) (f : MatchedArg → MatchedArg) (id : Id) : cnt (m.update g f) id = cnt m id := by
  rw [cnt_eq_sel, ArgMap.sel_update, ArgMap.update, List.length_map]; rfl

theorem cnt_append (m : ArgMap) (g : Id) (v : MatchedArg) (id : Id) :
    cnt (m ++ [(g, v)]) id = cnt m id + (if (g == id) = true then 1 else 0) := by
  rw [cnt_eq_sel, ArgMap.sel_append, ArgMap.sel_singleton, List.length_append]
  split <;> rfl

/-! #### building blocks: a fresh occurrence -/

/-- the entry `start_custom_arg` creates when the arg is not in the matcher -/
def freshEntry (a : Arg) (s : Source) : MatchedArg := (({ ignoreCase := a.ignoreCase } : MatchedArg).setSource s).newValGroup

/-- `start_custom_arg` on a store that (overrides removed) does not hold the arg: one fresh entry -/
theorem sel_startArgs_fresh (c : Cmd) (a : Arg) (s : Source) (m : ArgMap)
    (hng : ∀ g ∈ c.groupsForArg a.id, (g == a.id) = false)
    (habs : cnt (if s == .cmdline then removeOverrides c a m else m) a.id = 0) :
    (startArgs c a s m).sel a.id = [(a.id, freshEntry a s)] := by
  have hnc := ArgMap.sel_eq_nil.1 (List.eq_nil_of_length_eq_zero habs)
  rw [sel_startArgs_self c a s m hng, startEntry, sel_matcherStart_self, hnc]
  rfl

/-- `start_custom_arg` on a state that does not hold the arg: succeeds, the arg's entry is fresh and unique -/
theorem startCustomArg_fresh (c : Cmd) (a : Arg) (p : P)
    (hng : ∀ g ∈ c.groupsForArg a.id, (g == a.id) = false)
    (habs : cnt (removeOverrides c a p.args) a.id = 0) :
    (startCustomArg c a .cmdline p).2 = .ok () ∧
    (startCustomArg c a .cmdline p).1.args.get a.id = some (freshEntry a .cmdline) ∧
    cnt (startCustomArg c a .cmdline p).1.args a.id = 1 ∧
    (startCustomArg c a .cmdline p).1.curIdx = p.curIdx := by
  have h := sel_startArgs_fresh c a .cmdline p.args hng habs
  rw [startCustomArg_eq]
  exact ⟨rfl, by rw [ArgMap.get_eq_sel, h]; rfl, by rw [cnt_eq_sel, h]; rfl, rfl⟩

/-- pushing values appends all of them, in order, to the open (last) value group -/
theorem pushArgValues_all (a : Arg) : ∀ (vals : List Bytes) (p : P) (ma : MatchedArg) (gs : List (List Bytes)) (g : List Bytes),
    p.args.get a.id = some ma → ma.rawVals = gs ++ [g] → (∀ v ∈ vals, parseValue a v = .ok ()) →
    (pushArgValues a vals p).2 = .ok () ∧
    ∃ ma', (pushArgValues a vals p).1.args.get a.id = some ma' ∧ ma'.rawVals = gs ++ [g ++ vals] ∧
      ma'.source = ma.source ∧ cnt (pushArgValues a vals p).1.args a.id = cnt p.args a.id := by
  intro vals
  induction vals with
  | nil =>
    intro p ma gs g hget hraw _
    rw [pushArgValues, List.append_nil]
    exact ⟨rfl, ma, hget, hraw, rfl, rfl⟩
  | cons v vs ih =>
    intro p ma gs g hget hraw hpv
    have hap : ma.appendVal v = some { ma with rawVals := gs ++ [g ++ [v]] } := by
      simp only [MatchedArg.appendVal, hraw, List.reverse_append, List.reverse_cons, List.reverse_nil, List.nil_append,
        List.cons_append, List.reverse_reverse]
    rw [pushArgValues]
    simp only [hpv v List.mem_cons_self, hget, Option.bind_some, hap]
    obtain ⟨r1, ma', r2, r3, r4, r5⟩ := ih
      { p with curIdx := p.curIdx + 1, args := p.args.update a.id fun _ => ({ ma with rawVals := gs ++ [g ++ [v]] } : MatchedArg).pushIndex (p.curIdx + 1) }
      (({ ma with rawVals := gs ++ [g ++ [v]] } : MatchedArg).pushIndex (p.curIdx + 1)) gs (g ++ [v])
      (by rw [ArgMap.get_update_self, hget]; rfl) rfl (fun v' hv' => hpv v' (List.mem_cons_of_mem _ hv'))
    exact ⟨r1, ma', r2, by rw [r3, List.append_assoc]; rfl, r4, by rw [r5, cnt_update]⟩

/-- **an occurrence of an arg the store does not hold** (once the overrides are removed): afterwards the store holds
exactly one entry for it, with this occurrence's values and source. `Set` after the removal, `Count`, and a value from
the environment or a default are all this case. -/
theorem reactFinish_fresh (c : Cmd) (a : Arg) (s : Source) (p : P) (vals : List Bytes)
    (hng : ∀ g ∈ c.groupsForArg a.id, (g == a.id) = false)
    (habs : cnt (if s == .cmdline then removeOverrides c a p.args else p.args) a.id = 0)
    (hpv : ∀ v ∈ vals, parseValue a v = .ok ()) :
    (reactFinish c a s p vals).2 = .ok .valuesDone ∧
    ∃ ma, (reactFinish c a s p vals).1.args.get a.id = some ma ∧ ma.rawVals = [vals] ∧ ma.source = some s ∧
      cnt (reactFinish c a s p vals).1.args a.id = 1 := by
  have h := sel_startArgs_fresh c a s p.args hng habs
  obtain ⟨q1, ma', q2, q3, q4, q5⟩ := pushArgValues_all a vals { p with args := startArgs c a s p.args } (freshEntry a s) [] []
    (by rw [ArgMap.get_eq_sel, h]; rfl) rfl hpv
  rw [reactFinish_eq, q1]
  exact ⟨rfl, ma', q2, q3, by rw [q4]; cases s <;> rfl, by rw [q5, cnt_eq_sel, h]; rfl⟩

/-- removing the arg's entry first makes it absent, whatever the overrides remove besides -/
theorem cnt_removeOverrides_remove (c : Cmd) (a : Arg) (m : ArgMap) (h : cnt m a.id ≤ 1) :
    cnt (removeOverrides c a (ArgMap.remove a.id m)) a.id = 0 := by
  have h1 := cnt_removeOverrides_le c a (ArgMap.remove a.id m) a.id
  have h2 := cnt_remove_self m a.id
  omega

/-! #### `Count` -/

/-- a well-formed counting flag -/
structure IsCount (c : Cmd) (a : Arg) : Prop where
  action : a.getAction = .count
  noMissing : a.defaultMissing = []
  noDelim : a.delim = none
  vp : a.getVP = .count
  numArgs : a.getNumArgs = Range.empty
  notGroupId : ∀ g ∈ c.groupsForArg a.id, (g == a.id) = false

/-- the state holds count `k` for `a`: absent (k = 0) or one entry whose only value is `k` -/
def Holds (p : P) (a : Arg) (k : Nat) : Prop :=
  cnt p.args a.id ≤ 1 ∧
  ((k = 0 ∧ p.args.contains a.id = false) ∨ (∃ ma, p.args.get a.id = some ma ∧ ma.rawVals = [[natBytes k]]))

/-- an occurrence of a counting flag drops the old entry and stores the rendering of the next count -/
theorem reactCore_count (c : Cmd) (a : Arg) (hc : IsCount c a) (ident : Option Ident) (p : P) :
    reactCore c ident .cmdline a [] none p =
      reactFinish c a .cmdline { p with args := ArgMap.remove a.id p.args } [natBytes (countNext p a)] := by
  have hv : verifyNumArgs c a ([] : List Bytes).length = .ok () := by
    unfold verifyNumArgs
    split
    · rfl
    · simp [hc.numArgs, Range.empty, Range.numValues, Range.isFixed]
  have hsplit : splitDelim c a [] none = [] := by simp [splitDelim, hc.noDelim]
  unfold reactCore
  simp only [beq_self_eq_true, ↓reduceIte, hv, hc.noMissing, List.isEmpty_nil, Bool.not_true, Bool.and_false,
    Bool.false_eq_true, hc.action, hsplit]

theorem countNext_of_holds {p : P} {a : Arg} {k : Nat} (h : Holds p a k) : countNext p a = min (k + 1) 255 := by
  unfold countNext
  rcases h.2 with ⟨rfl, hnc⟩ | ⟨ma, hget, hraw⟩
  · rw [ArgMap.contains_iff_get, Option.isSome_eq_false_iff, Option.isNone_iff_eq_none] at hnc
    rw [hnc]; rfl
  · simp only [hget, Option.bind_some, MatchedArg.rawFlat, hraw, List.flatten_cons, List.flatten_nil, List.append_nil,
      List.head?_cons, digitsVal_natBytes, Option.getD_some]
    rfl

/-- **one occurrence of a counting flag**: if the flag stands at `k ≤ 255`, one more
occurrence succeeds and leaves it at `min (k+1) 255` -/
theorem count_step (c : Cmd) (a : Arg) (hc : IsCount c a) (ident : Option Ident) (p : P) (k : Nat) (hk : k ≤ 255)
    (h : Holds p a k) :
    (reactCore c ident .cmdline a [] none p).2 = .ok .valuesDone ∧
    Holds (reactCore c ident .cmdline a [] none p).1 a (min (k + 1) 255) := by
  have hpv : parseValue a (natBytes (min (k + 1) 255)) = .ok () := by
    unfold parseValue
    rw [hc.vp]
    exact count_parser_accepts _ (by omega)
  rw [reactCore_count c a hc, countNext_of_holds h]
  obtain ⟨f1, ma, f2, f3, _, f5⟩ := reactFinish_fresh c a .cmdline { p with args := ArgMap.remove a.id p.args }
    [natBytes (min (k + 1) 255)] hc.notGroupId (cnt_removeOverrides_remove c a p.args h.1) (by simpa using hpv)
  exact ⟨f1, by omega, .inr ⟨ma, f2, f3⟩⟩

/-- `n` occurrences, one after the other -/
def countN (c : Cmd) (a : Arg) (ident : Option Ident) : Nat → P → P
  | 0, p => p
  | n+1, p => countN c a ident n (reactCore c ident .cmdline a [] none p).1

/-- **`Count` yields the number of occurrences, saturating at 255**, for every
number of occurrences (no bound) -/
theorem count_saturates (c : Cmd) (a : Arg) (hc : IsCount c a) (ident : Option Ident) :
    ∀ (n : Nat) (p : P) (k : Nat), k ≤ 255 → Holds p a k → Holds (countN c a ident n p) a (min (k + n) 255) := by
  intro n
  induction n with
  | zero =>
    intro p k hk h
    rw [Nat.add_zero, Nat.min_eq_left hk]
    exact h
  | succ n ih =>
    intro p k hk h
    have h' := ih _ (min (k + 1) 255) (Nat.min_le_right _ _) (count_step c a hc ident p k hk h).2
    -- adding one and saturating, then `n` more, is adding `n + 1` and saturating
    have e : min (min (k + 1) 255 + n) 255 = min (k + (n + 1)) 255 := by
      rcases Nat.le_total (k + 1) 255 with h1 | h1
      · rw [Nat.min_eq_left h1, Nat.add_assoc, Nat.add_comm 1 n]
      · have h2 : 255 ≤ k + (n + 1) := by
          rw [Nat.add_comm n 1, ← Nat.add_assoc]
          exact Nat.le_trans h1 (Nat.le_add_right _ _)
        rw [Nat.min_eq_right h1, Nat.min_eq_right (Nat.le_add_right _ _), Nat.min_eq_right h2]
    rw [e] at h'
    exact h'

/-- from scratch: after `n` occurrences the flag holds `min n 255` -/
theorem count_from_absent (c : Cmd) (a : Arg) (hc : IsCount c a) (ident : Option Ident) (n : Nat) (p : P)
    (h0 : p.args.contains a.id = false) : Holds (countN c a ident n p) a (min n 255) := by
  have hcnt : cnt p.args a.id ≤ 1 := by
    cases hz : cnt p.args a.id with
    | zero => omega
    | succ m => have := (contains_iff_cnt p.args a.id).2 (by omega); rw [h0] at this; simp at this
  have := count_saturates c a hc ident n p 0 (by omega) ⟨hcnt, Or.inl ⟨rfl, h0⟩⟩
  simpa using this

/-! #### `Set` / `SetTrue` / `SetFalse`: last occurrence wins, or the repeat is a conflict -/

/-- the arg overrides itself (`args_override_self` or `overrides_with(self)`) -/
def SelfOverride (c : Cmd) (a : Arg) : Bool := c.settings.argsOverrideSelf || a.overrides.contains a.id

/-- a repeated `Set`-like occurrence without self-override is rejected as a conflict -/
theorem replace_repeat_conflicts (c : Cmd) (a : Arg) (p : P) (vals : List Bytes)
    (hpresent : p.args.contains a.id = true) (hno : SelfOverride c a = false) :
    (reactReplace c a .cmdline p vals).2 = .error .argumentConflict := by
  unfold SelfOverride at hno
  unfold reactReplace
  simp only [hpresent, hno, Bool.not_false, Bool.and_self, ↓reduceIte]

/-- otherwise the stored values are exactly those of this (the latest) occurrence -/
theorem replace_last_wins (c : Cmd) (a : Arg) (p : P) (vals : List Bytes)
    (hng : ∀ g ∈ c.groupsForArg a.id, (g == a.id) = false) (hcnt : cnt p.args a.id ≤ 1)
    (hok : p.args.contains a.id = false ∨ SelfOverride c a = true)
    (hpv : ∀ v ∈ vals, parseValue a v = .ok ()) :
    (reactReplace c a .cmdline p vals).2 = .ok .valuesDone ∧
    ∃ ma, (reactReplace c a .cmdline p vals).1.args.get a.id = some ma ∧ ma.rawVals = [vals] ∧
      ma.source = some .cmdline ∧ cnt (reactReplace c a .cmdline p vals).1.args a.id = 1 := by
  have hcond : (p.args.contains a.id && !(c.settings.argsOverrideSelf || a.overrides.contains a.id)) = false := by
    rcases hok with h | h
    · rw [h]; rfl
    · unfold SelfOverride at h; rw [h]; simp
  unfold reactReplace
  simp only [hcond, Bool.false_eq_true, ↓reduceIte]
  exact reactFinish_fresh c a .cmdline _ vals hng (cnt_removeOverrides_remove c a p.args hcnt) hpv

/-! #### `Append`: one more value group, earlier ones untouched -/

/-- an occurrence of an `Append` arg that is already in the matcher (and does not
override itself) adds exactly one value group holding this occurrence's values -/
theorem append_adds_group (c : Cmd) (a : Arg) (p : P) (vals : List Bytes) (ma : MatchedArg)
    (hng : ∀ g ∈ c.groupsForArg a.id, (g == a.id) = false)
    (hget : (removeOverrides c a p.args).get a.id = some ma)
    (hpv : ∀ v ∈ vals, parseValue a v = .ok ()) :
    (reactFinish c a .cmdline p vals).2 = .ok .valuesDone ∧
    ∃ ma', (reactFinish c a .cmdline p vals).1.args.get a.id = some ma' ∧ ma'.rawVals = ma.rawVals ++ [vals] := by
  -- `start_custom_arg` opens a new group on the existing entry
  have hcont : (removeOverrides c a p.args).contains a.id = true := by
    rw [ArgMap.contains_iff_get, hget]; rfl
  have hstart : (startArgs c a .cmdline p.args).get a.id = some ((ma.setSource .cmdline).newValGroup) := by
    rw [ArgMap.get_eq_sel, sel_startArgs_self c a .cmdline p.args hng, ← ArgMap.get_eq_sel]
    simp only [startEntry, matcherStart, beq_self_eq_true, ↓reduceIte, hcont, ArgMap.get_update_self, hget, Option.map_some]
  obtain ⟨q1, ma', q2, q3, _, _⟩ := pushArgValues_all a vals { p with args := startArgs c a .cmdline p.args } _
    ma.rawVals [] hstart rfl hpv
  rw [reactFinish_eq, q1]
  exact ⟨rfl, ma', q2, by simpa using q3⟩

/-! #### an occurrence removes what the arg overrides -/

/-- after an occurrence of `a`, nothing that `a` overrides is left (the other half of `remove_overrides`, the args that
override `a`, is not covered here) -/
theorem overrides_removed (c : Cmd) (a : Arg) (m : ArgMap) (o : Id) (hne : (o == a.id) = false)
    (h : a.overrides.contains o = true) (huniq : cnt m o ≤ 1) : (removeOverrides c a m).contains o = false := by
  -- the first fold removes `o` (it is in `a.overrides`); what follows only removes more
  have key : ∀ (ids : List Id) (m : ArgMap), ids.contains o = true → cnt m o ≤ 1 →
      cnt (ids.foldl (removeOverridden c) m) o = 0 := by
    intro ids
    induction ids with
    | nil => intro m h; simp at h
    | cons x xs ih =>
      intro m hin hc
      simp only [List.foldl_cons]
      by_cases hx : o = x
      · subst hx
        have h1 := cnt_removeOverridden_self c m o hc
        have h2 := cnt_le_of_sublist (foldl_sublist _ (removeOverridden_sublist c) xs (removeOverridden c m o)) o
        omega
      · exact ih _ (by simpa [hx] using hin) (Nat.le_trans (cnt_le_of_sublist (removeOverridden_sublist c m x) o) hc)
  have h0 := key a.overrides m h huniq
  unfold removeOverrides
  refine Bool.eq_false_iff.2 fun hc => ?_
  have h1 := (contains_iff_cnt _ _).1 hc
  exact absurd (Nat.lt_of_lt_of_le h1 (cnt_le_of_sublist (foldl_sublist _ (removeOverridden_sublist c) _ _) o))
    (by rw [h0]; exact Nat.lt_irrefl 0)

/-- non-vacuity: 300 occurrences of `-v` -/
example : natBytes (min 300 255) = [0x32, 0x35, 0x35] := by decide +kernel

end Clap.C07

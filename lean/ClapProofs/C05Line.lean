/-
C05 at the level of whole command lines: a prefix of options, flags and single-valued positionals (any spelling the
attribution refinement of C02 covers), then a bare `--`, then ANY tail. The prefix is observed exactly as it is
without the tail - the same `react`s on the same args with the same values - and the tail reaches the last
(multi-valued) positional byte for byte, in order, as one occurrence.
-/
import ClapProofs.C05
import ClapProofs.C02Short
namespace Clap.C05
open Clap Parser Bytes

/-! #### marking the pending entry "trailing from here" does not change how it is resolved -/

theorem splitGo_idx (c : Cmd) (d : Bytes) (n : Nat) : ∀ (vs : List Bytes) (i : Nat), (∀ j, i ≤ j → j < i + vs.length → n ≠ j) →
    splitDelim.go c (some n) d i vs = splitDelim.go c none d i vs
  | [], _, _ => by simp [splitDelim.go]
  | v :: vs, i, h => by
    have hi : n ≠ i := h i (Nat.le_refl _) (by simp)
    have hne : (some n == some i) = false := by simp [hi]
    have ih := splitGo_idx c d n vs (i + 1) (fun j h1 h2 => h j (by omega) (by simp at h2 ⊢; omega))
    simp only [splitDelim.go, hne, Bool.and_false, Bool.or_false, ih]
    simp

theorem splitDelim_len (c : Cmd) (a : Arg) (vals : List Bytes) :
    splitDelim c a vals (some vals.length) = splitDelim c a vals none := by
  unfold splitDelim
  cases a.delim with
  | none => rfl
  | some d =>
    simp only
    cases vals with
    | nil => simp [splitDelim.go]
    | cons v vs =>
      have : (some (v :: vs).length == some 0) = false := by simp
      simp only [this, Bool.and_false, Bool.false_eq_true, ↓reduceIte]
      have h0 : ((none : Option Nat) == some 0) = false := rfl
      simp only [h0, Bool.and_false, Bool.false_eq_true, ↓reduceIte]
      exact splitGo_idx c d _ _ 0 (fun j _ h2 => by simp at h2 ⊢; omega)

/-- `react` reads the trailing mark only where it splits the values at the delimiter -/
theorem reactCore_trailingIdx (c : Cmd) (ident : Option Ident) (s : Source) (a : Arg) (vals : List Bytes) (t : Option Nat) (p : P)
    (h : splitDelim c a vals t = splitDelim c a vals none) :
    reactCore c ident s a vals t p = reactCore c ident s a vals none p := by
  unfold reactCore
  by_cases hm : (vals.isEmpty && !a.defaultMissing.isEmpty) = true
  · simp only [hm, ↓reduceIte]
  · simp only [hm, Bool.false_eq_true, ↓reduceIte, h]

/-- `start_trailing` only stamps the pending entry; resolving it gives the same result -/
theorem resolvePending_startTrailing (c : Cmd) (p : P) (h : ∀ pd, p.pending = some pd → pd.trailingIdx = none) :
    resolvePending c (startTrailing p) = resolvePending c p := by
  unfold startTrailing
  cases hp : p.pending with
  | none => simp [hp]
  | some pd =>
    have ht := h pd hp
    simp only
    unfold resolvePending
    simp only [hp, ht, Option.getD_none]
    cases c.find pd.id with
    | none => rfl
    | some a =>
      simp only
      rw [reactCore_trailingIdx _ _ _ _ _ _ _ (splitDelim_len c a pd.rawVals)]

/-! #### `--` when something is still pending for another arg -/

/-- **`--` then anything**, in the ground state, with or without values of another arg still pending: what is
pending is resolved as it would have been anyway, and the tokens after the `--` - whatever they are - become exactly
the raw values of the last positional, in order -/
theorem escape_then_tail_any (c : Cmd) (similar : Bytes → Bytes → Bool) (a : Arg) (ls : LoopSt) (p : P)
    (tok : Bytes) (toks : List Bytes)
    (hpos : c.getPos c.positionalCount = some a) (hmul : a.isMultiple = true) (hmv : a.isMultipleValues = true)
    (hterm : a.terminator = none)
    (htr : ls.trailing = false) (hst : ls.st = .valuesDone) (hpc : ls.posCounter = c.positionalCount)
    (hother : ∀ pd, p.pending = some pd → (pd.id != a.id) = true ∧ pd.trailingIdx = none)
    (hsc : possibleSubcommand c [Bytes.dash, Bytes.dash] ls.validArgFound = none) :
    loop c similar ls ([Bytes.dash, Bytes.dash] :: tok :: toks) p =
      match resolvePending c p with
      | (q, .error e) => (q, .error e)
      | (q, .ok ()) =>
        ({ q with pending := some { id := a.id, ident := some .index, rawVals := tok :: toks, trailingIdx := some 0 } },
          .ok .done) := by
  cases hp : p.pending with
  | none =>
    rw [escape_then_tail c similar a ls p tok toks hpos hmul hmv hterm htr hst hpc hp hsc,
      resolvePending_none c p hp]
  | some pd =>
    obtain ⟨hid, htn⟩ := hother pd hp
    rw [escape_sets_trailing c similar ls (tok :: toks) p htr (by simp [hst, hsc]) none (by simp [stateArg, hst]) rfl]
    have hcp := correctPosCounter_last c { ls with trailing := true } toks.head? rfl hpc
    have ht : isTerminator a tok = false := by simp [isTerminator, hterm]
    have hst' : (startTrailing p).pending = some { pd with trailingIdx := some pd.rawVals.length } := by
      simp [startTrailing, hp, htn]
    rw [trailing_open c similar _ tok toks (startTrailing p) a rfl (by rw [hcp]; exact hpos) hmul ht (by rw [hst']; simpa using hid),
      resolvePending_startTrailing c p (fun pd' h => by rw [hp] at h; cases h; exact htn)]
    cases hr : resolvePending c p with
    | mk q r =>
      cases r with
      | error e => rfl
      | ok u =>
        simp only
        cases toks with
        | nil => simp [loop]
        | cons t2 r2 =>
          rw [trailing_tail_collected c similar a hpos hmul hmv hterm (t2 :: r2) _ _
            { id := a.id, ident := some .index, rawVals := [tok], trailingIdx := some 0 } rfl (by simpa using hcp) rfl rfl rfl (by simp)]
          simp

/-! #### the whole line: prefix, `--`, tail -/

/-- what the caller of the loop sees of the tail: one occurrence of the last positional whose values are exactly the
tokens after the `--` (marked as trailing from the first one) -/
def tailOcc (c : Cmd) (a : Arg) (tok : Bytes) (toks : List Bytes) : P → C02.Obs := fun q =>
  match reactCore c (some .index) .cmdline a (tok :: toks) (some 0) q with
  | (_, .error e) => .error e
  | (r, .ok _) => .ok (r, .done)

/-- the pending entry, if any, belongs to another arg than the one that is to receive the tail -/
def NotCollecting (a : Arg) : Option Pending → Prop :=
  fun pend => ∀ pd, pend = some pd → (pd.id != a.id) = true ∧ pd.trailingIdx = none

theorem runAtomsK_factor (c : Cmd) (g : P → C02.Obs) : ∀ (l : List C02.Atom) (pc : Nat) (p : P),
    C02.runAtomsK c l pc p (fun _ q => g q) =
      match C02.runAtomsK c l pc p (fun _ q => .ok (q, .done)) with
      | .error e => .error e
      | .ok (q, _) => g q
  | [], _, _ => rfl
  | x :: l, pc, p => by
    rw [C02.runAtomsK_cons, C02.runAtomsK_cons]
    cases x.arg c pc with
    | none => rfl
    | some a =>
      simp only
      cases react c (some x.ident) .cmdline a x.vals none p with
      | mk p1 r =>
        cases r with
        | error e => rfl
        | ok _ => exact runAtomsK_factor c g l _ p1

/-- **prefix, `--`, tail** (C05 at the level of whole command lines): on a level whose last positional `a` takes
several values, a prefix of long options, short clusters, flags and values for the single-valued positionals before
`a` (all of them filled), then a bare `--`, then ANY non-empty tail: the prefix is observed as one `react` per spelt
occurrence exactly as without the tail, and the tail becomes one occurrence of `a` whose values are the tail's
tokens, byte for byte and in order - none of them interpreted -/
theorem prefix_escape_tail (c : Cmd) (wf : C01.WF c) (sp : C02.SimplePos c) (pp : C02.PlainPos c)
    (similar : Bytes → Bytes → Bool) (a : Arg)
    (hpos : c.getPos c.positionalCount = some a) (hmul : a.isMultiple = true) (hmv : a.isMultipleValues = true)
    (hterm : a.terminator = none)
    (occs : List C02.Occ3) (ls : LoopSt) (p : P) (tok : Bytes) (toks : List Bytes)
    (hok : C02.okAll3 c occs ls.posCounter) (htr : ls.trailing = false) (hst : ls.st = .valuesDone)
    (hfss : p.flagSubSkip = 0) (hpend : NotCollecting a p.pending)
    (hfilled : C02.pcAfter occs ls.posCounter = c.positionalCount) (hns : C02.NoSubTok c [Bytes.dash, Bytes.dash]) :
    C02.obs c (loop c similar ls (occs.flatMap C02.Occ3.spell ++ [Bytes.dash, Bytes.dash] :: tok :: toks) p) =
      match resolvePending c p with
      | (q, .ok ()) => C02.runAtomsK c (occs.flatMap C02.Occ3.atoms) ls.posCounter q (fun _ q' => tailOcc c a tok toks q')
      | (_, .error e) => .error e := by
  obtain ⟨hfind, hidx⟩ := C01.getPos_spec wf hpos
  have hend : C02.RF c (NotCollecting a)
      (fun p' => C02.obs c (loop c similar (C02.lsAfter ls occs) ([Bytes.dash, Bytes.dash] :: tok :: toks) p'))
      (tailOcc c a tok toks) := by
    intro p' _ hJ
    have h1 : (C02.lsAfter ls occs).trailing = false := htr
    have h2 : (C02.lsAfter ls occs).st = .valuesDone := hst
    have h3 : (C02.lsAfter ls occs).posCounter = c.positionalCount := hfilled
    simp only
    rw [escape_then_tail_any c similar a _ p' tok toks hpos hmul hmv hterm h1 h2 h3 hJ (hns _)]
    cases hr : resolvePending c p' with
    | mk q r =>
      cases r with
      | error e => rfl
      | ok u =>
        have hq := resolvePending_ok_pending c p' q u hr
        simp only [C02.obs, C02.resolvePending_pended c q a .index (tok :: toks) (some 0) hq hfind, tailOcc]
        cases reactCore c (some .index) .cmdline a (tok :: toks) (some 0) q with
        | mk r1 r2 => cases r2 <;> rfl
  have hJocc : ∀ (a' : Arg) (i : Ident) (v : Bytes), c.find a'.id = some a' → (a'.index = none ∨ C02.SinglePos a') →
      NotCollecting a (some { id := a'.id, ident := some i, rawVals := [v], trailingIdx := none }) := by
    intro a' i v hf' hkind pd hpd
    cases hpd
    refine ⟨?_, rfl⟩
    simp only [bne_iff_ne, ne_eq]
    intro heq
    have : a' = a := by rw [heq, hfind] at hf'; cases hf'; rfl
    subst this
    rcases hkind with h | h
    · rw [hidx] at h; cases h
    · rw [h.1] at hmul; cases hmul
  exact C02.loop_clusters_then c wf sp pp similar _ (NotCollecting a) (by intro pd h; cases h) hJocc occs ls hok htr hst _ hend
    p hfss hpend

/-- **the tail leaves the prefix alone**: the line with `--` and a tail is observed as the line without them,
followed by one occurrence of the last positional that carries exactly the tail - so every flag, option and earlier
positional has exactly the values (and the errors) it has without the tail -/
theorem tail_leaves_prefix (c : Cmd) (wf : C01.WF c) (sp : C02.SimplePos c) (pp : C02.PlainPos c)
    (similar : Bytes → Bytes → Bool) (a : Arg)
    (hpos : c.getPos c.positionalCount = some a) (hmul : a.isMultiple = true) (hmv : a.isMultipleValues = true)
    (hterm : a.terminator = none)
    (occs : List C02.Occ3) (ls : LoopSt) (p : P) (tok : Bytes) (toks : List Bytes)
    (hok : C02.okAll3 c occs ls.posCounter) (htr : ls.trailing = false) (hst : ls.st = .valuesDone)
    (hfss : p.flagSubSkip = 0) (hpend : NotCollecting a p.pending)
    (hfilled : C02.pcAfter occs ls.posCounter = c.positionalCount) (hns : C02.NoSubTok c [Bytes.dash, Bytes.dash]) :
    C02.obs c (loop c similar ls (occs.flatMap C02.Occ3.spell ++ [Bytes.dash, Bytes.dash] :: tok :: toks) p) =
      match C02.obs c (loop c similar ls (occs.flatMap C02.Occ3.spell) p) with
      | .error e => .error e
      | .ok (q, _) => tailOcc c a tok toks q := by
  rw [prefix_escape_tail c wf sp pp similar a hpos hmul hmv hterm occs ls p tok toks hok htr hst hfss hpend hfilled hns,
    C02.loop_clusters c wf sp pp similar occs ls p hok htr hst hfss]
  cases resolvePending c p with
  | mk q r =>
    cases r with
    | error e => rfl
    | ok u =>
      simp only
      rw [runAtomsK_factor, C02.runAtomsK_done]
      rfl

/-- the hypotheses are met by `prog -v --out o -- --help -x ""` on a command with a flag, an option and one
positional taking any number of values -/
example :
    let fv : Arg := { id := [118], short := some [118], action := some .setTrue, numVals := some ⟨0, some 0⟩ }
    let oo : Arg := { id := [111], long := some [111, 117, 116] }
    let a : Arg := { id := [102], index := some 1, numVals := some ⟨1, none⟩ }
    let c : Cmd := .mk [112] [] none none [] [] {} [fv, oo, a] [] []
    let occs : List C02.Occ3 := [.cluster ⟨[[118]], none⟩, .long ⟨[111, 117, 116], some [111], true⟩]
    c.getPos c.positionalCount = some a ∧ a.isMultiple = true ∧ a.isMultipleValues = true ∧ a.terminator = none ∧
      C02.okAll3 c occs 1 ∧ C02.pcAfter occs 1 = c.positionalCount ∧ NotCollecting a (none : Option Pending) ∧
      C02.SimplePos c ∧ C02.PlainPos c := by
  intro fv oo a c occs
  have ns : ∀ tok, C02.NoSubTok c tok := C02.noSubTok_of_no_subs c rfl
  have hO : findLong c [111, 117, 116] = some oo := by decide +kernel
  have hcl : C02.COcc.ok c ⟨[[118]], none⟩ := by
    refine ⟨fun tok _ => ns tok, Or.inl (by decide +kernel), ?_, by intro ch v k h; cases h⟩
    intro ch hch
    have : ch = [118] := by simpa using hch
    subst this
    exact ⟨by decide +kernel, by decide +kernel, fv, by decide +kernel, by decide +kernel⟩
  have hlo : C02.SOcc.ok c ⟨[111, 117, 116], some [111], true⟩ := by
    refine ⟨⟨ns _, by decide +kernel, by decide +kernel, by decide +kernel, oo, hO, by decide +kernel⟩, ?_⟩
    intro _ v hv a' ha'
    have hv' : [111] = v := Option.some.inj hv
    subst hv'
    have ha'' : oo = a' := Option.some.inj (hO.symm.trans ha')
    subst ha''
    exact ⟨ns _, ns _, by decide +kernel, by decide +kernel, by decide +kernel, by decide +kernel⟩
  have hsp : C02.SimplePos c := by
    refine ⟨rfl, ?_⟩
    intro x hx hp hm
    simp [c, Cmd.args] at hx
    rcases hx with rfl | rfl | rfl
    · exact absurd hp (by decide +kernel)
    · exact absurd hp (by decide +kernel)
    · decide +kernel
  have hpp : C02.PlainPos c := by
    refine ⟨?_⟩
    intro x hx hi
    simp [c, Cmd.args] at hx
    rcases hx with rfl | rfl | rfl
    · exact absurd hi (by decide +kernel)
    · exact absurd hi (by decide +kernel)
    · exact ⟨by decide +kernel, by decide +kernel⟩
  exact ⟨by decide +kernel, by decide +kernel, by decide +kernel, by decide +kernel, ⟨hcl, hlo, trivial⟩, by decide +kernel, (by intro pd h; cases h), hsp, hpp⟩

end Clap.C05

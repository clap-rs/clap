/-
C16 — the fish generator: every level down to two below the root has its `complete` lines in the script, each line
guarded by the condition that names the path; deeper levels are not generated (the source's documented limit).
-/
import ClapProofs.C16
import ClapModel.FishGen
namespace Clap.C16
open Clap Shell FishGen

theorem fish_genSubs_eq (bin needsFn usingFn : Str) (parents : List Str) (subs : List FNode) :
    genSubs bin needsFn usingFn parents subs =
      subs.flatMap fun sc => sc.names.flatMap fun nm => genInner bin needsFn usingFn (parents ++ [nm]) sc := by
  have names : ∀ sc l, genNames bin needsFn usingFn parents sc l =
      l.flatMap fun nm => genInner bin needsFn usingFn (parents ++ [nm]) sc := by
    intro sc l
    induction l <;> simp [genNames, *]
  induction subs with
  | nil => simp [genSubs]
  | cons sc rest ih => simp [genSubs, names, ih]

/-- down to two parents a level is its own lines, then every sub-level under every spelling -/
theorem genInner_eq (bin needsFn usingFn : Str) (parents : List Str) (n : FNode) (h : parents.length ≤ 2) :
    genInner bin needsFn usingFn parents n = levelLines bin needsFn usingFn parents n ++
      n.subs.flatMap fun sc => sc.names.flatMap fun nm => genInner bin needsFn usingFn (parents ++ [nm]) sc := by
  have : ¬ parents.length > 2 := by omega
  cases n
  simp only [genInner, this, ↓reduceIte, fish_genSubs_eq, FNode.subs]

theorem genInner_level (bin needsFn usingFn : Str) (parents : List Str) (n : FNode) (h : parents.length ≤ 2) :
    levelLines bin needsFn usingFn parents n <:+: genInner bin needsFn usingFn parents n := by
  rw [genInner_eq _ _ _ _ _ h]
  exact List.infix_append_of_infix_left (List.infix_refl _)

theorem genInner_sub (bin needsFn usingFn : Str) (parents : List Str) (n : FNode) (h : parents.length ≤ 2)
    (sc : FNode) (hs : sc ∈ n.subs) (nm : Str) (hn : nm ∈ sc.names) :
    genInner bin needsFn usingFn (parents ++ [nm]) sc <:+: genInner bin needsFn usingFn parents n := by
  rw [genInner_eq _ _ _ _ _ h]
  exact List.infix_append_of_infix_right ((infix_flatMap sc.names _ nm hn).trans
    (infix_flatMap n.subs (fun sc => sc.names.flatMap fun nm => genInner bin needsFn usingFn (parents ++ [nm]) sc) sc hs))

/-- the helper-function names the script uses -/
def fnNames (bin : Str) (root : FNode) : Str × Str :=
  if root.subs.isEmpty then (s "__fish_use_subcommand", s "__fish_seen_subcommand_from")
  else (s "__fish_" ++ escapeName bin ++ s "_needs_command", s "__fish_" ++ escapeName bin ++ s "_using_subcommand")

theorem script_has_inner (bin : Str) (root : FNode) :
    genInner bin (fnNames bin root).1 (fnNames bin root).2 [] root <:+: script bin root := by
  unfold script fnNames
  -- reduce `(a, b).1` before comparing: left to the unifier, the comparison evaluates the string literals
  split <;> dsimp only
  · exact List.infix_rfl
  · exact List.infix_append_of_infix_right List.infix_rfl

/-- **the root level, every first-level subcommand under every visible spelling, and every second-level subcommand
under every spelling have their lines in the fish script** -/
theorem fish_level_root (bin : Str) (root : FNode) :
    levelLines bin (fnNames bin root).1 (fnNames bin root).2 [] root <:+: script bin root :=
  List.IsInfix.trans (genInner_level _ _ _ [] root (by simp)) (script_has_inner bin root)

theorem fish_level_one (bin : Str) (root c : FNode) (hc : c ∈ root.subs) (nm : Str) (hn : nm ∈ c.names) :
    levelLines bin (fnNames bin root).1 (fnNames bin root).2 [nm] c <:+: script bin root :=
  List.IsInfix.trans (genInner_level _ _ _ [nm] c (by simp))
    (List.IsInfix.trans (genInner_sub _ _ _ [] root (by simp) c hc nm hn) (script_has_inner bin root))

theorem fish_level_two (bin : Str) (root c g : FNode) (hc : c ∈ root.subs) (nm : Str) (hn : nm ∈ c.names)
    (hg : g ∈ c.subs) (nm2 : Str) (hn2 : nm2 ∈ g.names) :
    levelLines bin (fnNames bin root).1 (fnNames bin root).2 [nm, nm2] g <:+: script bin root :=
  List.IsInfix.trans (genInner_level _ _ _ [nm, nm2] g (by simp))
    (List.IsInfix.trans (genInner_sub _ _ _ [nm] c (by simp) g hg nm2 hn2)
      (List.IsInfix.trans (genInner_sub _ _ _ [] root (by simp) c hc nm hn) (script_has_inner bin root)))

/-- a level's lines hold a line for every option and every flag, spelling every short and long of it -/
theorem levelLines_has_opt (bin needsFn usingFn : Str) (parents : List Str) (n : FNode) (cond : Str)
    (hc : condition needsFn usingFn parents n = some cond) (o : FOpt) (ho : o ∈ n.opts) :
    (if o.takes then optLine (s "complete -c " ++ bin ++ cond) o else flagLine (s "complete -c " ++ bin ++ cond) o)
      <:+: levelLines bin needsFn usingFn parents n := by
  unfold levelLines
  rw [hc]
  simp only
  by_cases ht : o.takes = true
  · simp only [ht, ↓reduceIte]
    exact List.infix_append_of_infix_left (List.infix_append_of_infix_left (infix_flatMap _ _ o (List.mem_filter.2 ⟨ho, ht⟩)))
  · have hf : o.takes = false := by simpa using ht
    simp only [hf, Bool.false_eq_true, ↓reduceIte]
    exact List.infix_append_of_infix_left (List.infix_append_of_infix_right (infix_flatMap _ _ o (List.mem_filter.2 ⟨ho, by simp [hf]⟩)))

theorem optSpells_has_long (o : FOpt) (l : Str) (hl : l ∈ o.longs) : (s " -l " ++ escapeString l false) <:+: optSpells o := by
  unfold optSpells
  exact List.infix_append_of_infix_left (List.infix_append_of_infix_right (infix_flatMap o.longs (fun l => s " -l " ++ escapeString l false) l hl))

theorem optSpells_has_short (o : FOpt) (x : Str) (hx : x ∈ o.shorts) : (s " -s " ++ x) <:+: optSpells o := by
  unfold optSpells
  exact List.infix_append_of_infix_left (List.infix_append_of_infix_left (infix_flatMap o.shorts (fun x => s " -s " ++ x) x hx))

/-- … and a line offering every subcommand name and visible alias of the level -/
theorem levelLines_has_sub (bin needsFn usingFn : Str) (parents : List Str) (n : FNode) (cond : Str)
    (hc : condition needsFn usingFn parents n = some cond) (sc : FNode) (hs : sc ∈ n.subs) (nm : Str) (hn : nm ∈ sc.names) :
    (s " -a \"" ++ nm ++ s "\"") <:+: levelLines bin needsFn usingFn parents n := by
  unfold levelLines
  rw [hc]
  simp only
  refine List.infix_append_of_infix_right (List.IsInfix.trans ?_ (infix_flatMap n.subs _ sc hs))
  refine List.IsInfix.trans ?_ (infix_flatMap sc.names _ nm hn)
  exact ⟨_, _, by simp only [List.append_assoc]; rfl⟩

/-- **the documented limit**: below two levels nothing is generated -/
theorem fish_deeper_levels_absent (bin needsFn usingFn : Str) (parents : List Str) (n : FNode) (h : 2 < parents.length) :
    genInner bin needsFn usingFn parents n = [] := by
  cases n with
  | mk names about opts hasPos subs => unfold genInner; simp [h]

/-- the condition of a level at depth one names the subcommand spelling, and excludes - by name - every spelling of the
next level, so that the level's options are not offered once a deeper subcommand has been typed -/
theorem condition_one (needsFn usingFn c : Str) (n : FNode) :
    condition needsFn usingFn [c] n = some (s " -n \"" ++ usingFn ++ s " " ++ c ++
      (if n.subs.isEmpty then [] else s "; and not __fish_seen_subcommand_from") ++ ((subNames n).flatMap fun nm => s " " ++ nm) ++ s "\"") := rfl

end Clap.C16

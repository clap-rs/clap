/-
C02 / C08 — attribution for short clusters, and the refinement itself. First what the flag loop makes of `-abc`, `-ovalue`,
`-o=value`, `-o value`, `-abovalue` (one step lemma per spelling). Then, for all shapes - long options, positional values,
clusters - one statement per shape that the spelt occurrence is observed as its atoms (`Seg`), one induction over the line
(`loop_segs`), and its instances: `loop_clusters_then`, `loop_clusters`, `loop_occurrences`, `loop_spellings`, and the
"equivalent spellings" theorems of C08.
-/
import ClapProofs.C02Attr2
import ClapProofs.C13
import ClapProofs.Lemmas.Utf8Char
namespace Clap.C02
open Clap Parser Bytes

/-! #### the iterator of a cluster -/

/-- the iterator is as `ShortFlags.new` leaves it on the bytes `b`: its characters are the well-formed prefix of `b` cut into
characters, its invalid rest is `b`'s, and (`Canon.unread`) exactly `b` is unread. `next_flag` on a character keeps it. -/
structure Canon (sf : ShortFlags) (b : Bytes) : Prop where
  inv : C13.Inv sf
  chars : sf.chars = (Utf8.splitValid b).1
  invalid : sf.invalid = if (Utf8.splitValid b).2.isEmpty then none else some (Utf8.splitValid b).2

theorem Canon.new (b : Bytes) : Canon (ShortFlags.new b) b := ⟨(C13.inv_new b).1, rfl, rfl⟩

theorem Canon.unread {sf : ShortFlags} {b : Bytes} (h : Canon sf b) : C13.unread sf = b := by
  have hl := Utf8.splitValid_lossless b
  unfold Utf8.chars Utf8.invalidRest at hl
  unfold C13.unread
  rw [h.chars, h.invalid]
  cases hr : (Utf8.splitValid b).2 with
  | nil => rw [hr] at hl; simpa using hl
  | cons x xs => rw [hr] at hl; simpa using hl

theorem Canon.nil {sf : ShortFlags} (h : Canon sf []) : sf.chars = [] ∧ sf.invalid = none := ⟨h.chars, h.invalid⟩

theorem Canon.next {sf : ShortFlags} {ch b : Bytes} (h : Canon sf (ch ++ b)) (hch : Utf8.IsChar ch) :
    ∃ sf1, sf.nextFlag = (sf1, .ch ch) ∧ Canon sf1 b ∧ sf.chars.length = sf1.chars.length + 1 := by
  have hsv : Utf8.splitValid (ch ++ b) = (ch :: (Utf8.splitValid b).1, (Utf8.splitValid b).2) := Utf8.isChar_append hch b
  have hc : sf.chars = ch :: (Utf8.splitValid b).1 := by rw [h.chars, hsv]
  have hinv := (C13.nextFlag_lossless sf h.inv).2.1
  unfold ShortFlags.nextFlag at hinv ⊢
  rw [hc] at hinv ⊢
  exact ⟨_, rfl, ⟨hinv, rfl, by rw [h.invalid, hsv]⟩, by simp⟩

/-! #### the flags of a cluster: one `react` each -/

/-- the abstract effect of the flags of a cluster -/
def runFlags (c : Cmd) : List Arg → P → R Unit
  | [], p => (p, .ok ())
  | a :: as, p =>
    match react c (some .short) .cmdline a [] none p with
    | (p1, .error e) => (p1, .error e)
    | (p1, .ok _) => runFlags c as p1

/-- the args the flag characters name -/
def flagArgs (c : Cmd) (flags : List Bytes) : List Arg := flags.filterMap c.getShort

/-- the flags of a cluster: characters other than `-` that are shorts of args taking no value -/
def FlagsOk (c : Cmd) (flags : List Bytes) : Prop :=
  ∀ ch ∈ flags, Utf8.IsChar ch ∧ Bytes.startsWith ch [dash] = false ∧ ∃ a, c.getShort ch = some a ∧ a.takesValue = false

theorem flagArgs_cons {c : Cmd} {ch : Bytes} {a : Arg} (h : c.getShort ch = some a) (flags : List Bytes) :
    flagArgs c (ch :: flags) = a :: flagArgs c flags := by
  simp [flagArgs, h]

/-- **the flag loop on known flags**: as long as the unread characters are shorts of args that take no value, the
loop performs one `react` per character, in order, and goes on with the rest of the cluster -/
theorem shortLoop_flags (c : Cmd) : ∀ (flags : List Bytes) (sf : ShortFlags) (b : Bytes),
    Canon sf (flags.flatten ++ b) → FlagsOk c flags →
    ∃ sf', Canon sf' b ∧ sf'.chars.length + flags.length = sf.chars.length ∧
      ∀ (fuel consumed : Nat) (ret : ParseResult) (vaf : Bool) (p : P), flags.length ≤ fuel →
      shortLoop c sf fuel consumed ret vaf p =
        match runFlags c (flagArgs c flags) p with
        | (p1, .error e) => (p1, .error e)
        | (p1, .ok ()) =>
          shortLoop c sf' (fuel - flags.length) (consumed + flags.length)
            (if flags.isEmpty then ret else .valuesDone) (vaf || !flags.isEmpty) p1
  | [], sf, b, hc, _ => ⟨sf, by simpa using hc, by simp, by simp [flagArgs, runFlags]⟩
  | ch :: flags, sf, b, hc, hk => by
    obtain ⟨hch, _, a, hget, htv⟩ := hk ch List.mem_cons_self
    rw [List.flatten_cons, List.append_assoc] at hc
    obtain ⟨sf1, hnf, hc1, hlen⟩ := hc.next hch
    obtain ⟨sf', hc', hlen', ih⟩ := shortLoop_flags c flags sf1 b hc1 (fun x hx => hk x (List.mem_cons_of_mem _ hx))
    refine ⟨sf', hc', by simp only [List.length_cons]; omega, ?_⟩
    intro fuel consumed ret vaf p hf
    cases fuel with
    | zero => simp at hf
    | succ fuel =>
      rw [shortLoop]
      simp only [hnf, hget, htv, Bool.not_false, ↓reduceIte, flagArgs_cons hget, runFlags]
      have hres := C01.react_result c (some .short) .cmdline a [] none p
      cases hr : react c (some .short) .cmdline a [] none p with
      | mk p1 r =>
        rw [hr] at hres
        cases r with
        | error e => rfl
        | ok r' =>
          rw [hres r' rfl]
          simp only
          rw [ih fuel (consumed + 1) .valuesDone true p1 (by simpa using hf)]
          simp only [List.length_cons, Nat.add_sub_add_right, List.isEmpty_cons, Bool.false_eq_true, ↓reduceIte,
            Bool.not_false, Bool.or_true, Bool.true_or, ite_self]
          rw [show consumed + 1 + flags.length = consumed + (flags.length + 1) by omega]

/-- the cluster is used up: the loop hands back what the last flag answered -/
theorem shortLoop_done (c : Cmd) (sf : ShortFlags) (fuel consumed : Nat) (ret : ParseResult) (vaf : Bool) (p : P)
    (hc : sf.chars = []) (hi : sf.invalid = none) :
    shortLoop c sf fuel consumed ret vaf p = (p, .ok (ret, vaf)) := by
  cases fuel with
  | zero => rw [shortLoop]
  | succ fuel =>
    have hnf : sf.nextFlag = (sf, .done) := by unfold ShortFlags.nextFlag; rw [hc, hi]
    rw [shortLoop]
    simp only [hnf]

/-- what `-o…` attaches to the option `o`: nothing, the bytes after a `=`, or the bytes as they are -/
def attachedOf (val0 : Bytes) : Option Bytes × Bool :=
  let val : Option Bytes := if val0.isEmpty then none else some val0
  match val.bind fun v => Bytes.stripPrefix v [Bytes.eq] with
  | some v => (some v, true)
  | none => (val, false)

theorem shortAttached_eq (sf : ShortFlags) (hi : C13.Inv sf) : shortAttached sf = attachedOf (C13.unread sf) := by
  unfold shortAttached attachedOf
  rw [(C13.nextValueOs_unread sf hi).1]
  rfl

theorem attachedOf_nil : attachedOf [] = (none, false) := rfl
theorem attachedOf_eq (v : Bytes) : attachedOf (Bytes.eq :: v) = (some v, true) := by
  simp [attachedOf, Bytes.stripPrefix]
theorem attachedOf_plain (v : Bytes) (hne : v ≠ []) (hv : Bytes.startsWith v [Bytes.eq] = false) :
    attachedOf v = (some v, false) := by
  cases v with
  | nil => exact absurd rfl hne
  | cons x xs =>
    have hx : (x == Bytes.eq) = false := by rwa [startsWith_cons_singleton] at hv
    simp [attachedOf, Bytes.stripPrefix, hx]

/-- the next character is the short of a value-taking option: the rest of the cluster is its attached value -/
theorem shortLoop_opt (c : Cmd) (sf : ShortFlags) (o tail : Bytes) (a : Arg) (fuel consumed : Nat)
    (ret : ParseResult) (vaf : Bool) (p : P) (hc : Canon sf (o ++ tail)) (ho : Utf8.IsChar o)
    (hget : c.getShort o = some a) (htv : a.takesValue = true) :
    shortLoop c sf (fuel + 1) consumed ret vaf p =
      match parseOptValue c .short (attachedOf tail).1 a (attachedOf tail).2 p with
      | (p1, .error e) => (p1, .error e)
      | (p1, .ok .attachedValueNotConsumed) => shortLoop c sf.nextFlag.1 fuel (consumed + 1) ret true p1
      | (p1, .ok x) => (p1, .ok (x, true)) := by
  obtain ⟨sf1, hnf, hc1, _⟩ := hc.next ho
  rw [shortLoop]
  simp only [hnf, hget, htv, Bool.not_true, Bool.false_eq_true, ↓reduceIte, shortAttached_eq _ hc1.inv, hc1.unread]
  cases parseOptValue c Ident.short _ a _ p with
  | mk p1 r =>
    cases r with
    | error e => rfl
    | ok x => cases x <;> rfl

/-! #### what the flag loop makes of a whole cluster -/

/-- `-abc`: one `react` per flag, then the cluster is done -/
theorem shortLoop_cluster_flags (c : Cmd) (flags : List Bytes) (hfl : FlagsOk c flags) (hne : flags ≠ []) (sf : ShortFlags)
    (hc : Canon sf flags.flatten) (fuel : Nat) (hf : sf.chars.length ≤ fuel) (vaf : Bool) (p : P) :
    shortLoop c sf fuel 0 .noArg vaf p =
      match runFlags c (flagArgs c flags) p with
      | (p1, .error e) => (p1, .error e)
      | (p1, .ok ()) => (p1, .ok (.valuesDone, true)) := by
  obtain ⟨sf', hc', hlen, h⟩ := shortLoop_flags c flags sf [] (by simpa using hc) hfl
  rw [h fuel 0 .noArg vaf p (by omega)]
  have hfe : flags.isEmpty = false := by
    cases flags with
    | nil => exact absurd rfl hne
    | cons _ _ => rfl
  cases runFlags c (flagArgs c flags) p with
  | mk p1 r =>
    cases r with
    | error e => rfl
    | ok u =>
      simp only [hfe]
      rw [shortLoop_done c sf' _ _ _ _ _ hc'.nil.1 hc'.nil.2]
      simp only [Bool.false_eq_true, ↓reduceIte, Bool.not_false, Bool.or_true]

/-- `-ab…o<tail>`: the flags react, then the option gets what `tail` attaches -/
theorem shortLoop_cluster_opt (c : Cmd) (flags : List Bytes) (hfl : FlagsOk c flags) (o : Bytes) (a : Arg)
    (ho : Utf8.IsChar o) (hget : c.getShort o = some a) (htv : a.takesValue = true) (tail : Bytes)
    (hreq : (a.requireEquals && !(attachedOf tail).2) = false) (sf : ShortFlags)
    (hc : Canon sf (flags.flatten ++ (o ++ tail))) (fuel : Nat) (hf : sf.chars.length ≤ fuel) (vaf : Bool) (p : P) :
    shortLoop c sf fuel 0 .noArg vaf p =
      match runFlags c (flagArgs c flags) p with
      | (p1, .error e) => (p1, .error e)
      | (p1, .ok ()) =>
        match (attachedOf tail).1 with
        | some v =>
          match react c (some .short) .cmdline a [v] none p1 with
          | (p2, .error e) => (p2, .error e)
          | (p2, .ok _) => (p2, .ok (.valuesDone, true))
        | none =>
          match resolvePending c p1 with
          | (q, .error e) => (q, .error e)
          | (q, .ok ()) =>
            ({ q with pending := some { id := a.id, ident := some .short, rawVals := [], trailingIdx := none } }, .ok (.opt a.id, true)) := by
  obtain ⟨sf', hc', hlen, h⟩ := shortLoop_flags c flags sf (o ++ tail) hc hfl
  -- the option's character is still to come, so there is fuel for it
  obtain ⟨sf1, _, _, hlen1⟩ := hc'.next ho
  rw [h fuel 0 .noArg vaf p (by omega)]
  cases runFlags c (flagArgs c flags) p with
  | mk p1 r =>
    cases r with
    | error e => rfl
    | ok u =>
      simp only
      rw [show fuel - flags.length = (fuel - flags.length - 1) + 1 by omega,
        shortLoop_opt c sf' o tail a _ _ _ _ p1 hc' ho hget htv, parseOptValue_plain c .short _ a _ p1 hreq]
      cases (attachedOf tail).1 with
      | some v =>
        simp only
        cases react c (some .short) .cmdline a [v] none p1 with
        | mk p2 r2 => cases r2 <;> rfl
      | none =>
        simp only
        cases resolvePending c p1 with
        | mk q r2 => cases r2 <;> rfl

/-! #### a cluster as a token -/

/-- no positional of the level takes hyphen values or negative numbers (otherwise a `-x…` token may be its value) -/
structure PlainPos (c : Cmd) : Prop where
  plain : ∀ a ∈ c.args, a.index.isSome = true → a.allowHyphen = false ∧ a.allowNegative = false

theorem parseShortArg_plain (c : Cmd) (pp : PlainPos c) (sf : ShortFlags) (pc : Nat) (vaf : Bool) (p : P)
    (hfss : p.flagSubSkip = 0) :
    parseShortArg c sf .valuesDone pc vaf p = shortLoop c sf (sf.chars.length + 2) 0 .noArg vaf p := by
  have hp0 : ({ p with flagSubSkip := 0 } : P) = p := by cases p; simp_all
  have hpos : ((c.getPos pc).map (·.allowNegative)).getD false = false ∧
      ((c.getPos pc).map fun a => a.allowHyphen && !a.last).getD false = false := by
    cases hg : c.getPos pc with
    | none => simp
    | some a =>
      obtain ⟨hm, hk⟩ := C01.getKey_mem hg
      obtain ⟨h1, h2⟩ := pp.plain a hm (by rw [C01.keys_pos_index hk]; rfl)
      simp [h1, h2]
  unfold parseShortArg
  simp only [stateArg, Option.map_none, Option.getD_none, hfss, bne_self_eq_false, Bool.not_false, Bool.true_and,
    Bool.false_eq_true, ↓reduceIte, hpos.1, hpos.2, Bool.false_and, ShortFlags.advanceBy, hp0]

/-- a cluster token is neither `--`, nor a long, and lexes as a short cluster over the bytes after the `-` -/
theorem cluster_lex (inner : Bytes) (hne : inner ≠ []) (hnd : Bytes.startsWith inner [dash] = false) :
    ParsedArg.isEscape (dash :: inner) = false ∧ ParsedArg.toLong (dash :: inner) = none ∧
    ParsedArg.toShort (dash :: inner) = some (ShortFlags.new inner) := by
  cases inner with
  | nil => exact absurd rfl hne
  | cons x xs =>
    have hx : (x == dash) = false := by rwa [startsWith_cons_singleton] at hnd
    refine ⟨?_, ?_, ?_⟩
    · unfold ParsedArg.isEscape
      apply Bool.eq_false_iff.2
      intro heq
      have : dash :: x :: xs = [dash, dash] := by simpa using heq
      simp at this
      rw [this.1] at hx; simp at hx
    · simp [ParsedArg.toLong, Bytes.stripPrefix, hx]
    · simp [ParsedArg.toShort, Bytes.stripPrefix, Bytes.startsWith, hx]

theorem flatten_noDash : ∀ (cs : List Bytes) (tail : Bytes), (∀ ch ∈ cs, Utf8.IsChar ch ∧ Bytes.startsWith ch [dash] = false) →
    cs ≠ [] → (cs.flatten ++ tail) ≠ [] ∧ Bytes.startsWith (cs.flatten ++ tail) [dash] = false
  | [], _, _, h => absurd rfl h
  | ch :: cs, tail, hcs, _ => by
    obtain ⟨hc, hd⟩ := hcs ch List.mem_cons_self
    cases ch with
    | nil => exact absurd rfl (Utf8.isChar_ne_nil hc)
    | cons x xs =>
      have hx : (x == dash) = false := by rwa [startsWith_cons_singleton] at hd
      simp [Bytes.startsWith, hx]

/-! #### a cluster as one step of the token loop -/

/-- how the value of the option that ends a cluster is written -/
inductive Attach
  | attached   -- `-ovalue`
  | eq         -- `-o=value`
  | sep        -- `-o value`
deriving DecidableEq

/-- a short cluster: flags, then optionally a value-taking short with its value -/
structure COcc where
  flags : List Bytes
  opt : Option (Bytes × Bytes × Attach)

def COcc.spell (o : COcc) : List Bytes :=
  match o.opt with
  | none => [dash :: o.flags.flatten]
  | some (ch, v, .attached) => [dash :: (o.flags.flatten ++ (ch ++ v))]
  | some (ch, v, .eq) => [dash :: (o.flags.flatten ++ (ch ++ Bytes.eq :: v))]
  | some (ch, v, .sep) => [dash :: (o.flags.flatten ++ ch), v]

/-- the cluster is well-formed for the command: every flag character is the short of an arg that takes no value; the
last character, if it carries a value, is the short of an arg that takes one; the attached spelling is not used for
values that are empty or begin with `=`, nor (like the separate one) with `require_equals`; the separate spelling is
for single-valued options without terminator and values that do not look like a flag -/
def COcc.ok (c : Cmd) (o : COcc) : Prop :=
  (∀ tok ∈ o.spell, NoSubTok c tok) ∧
  (o.flags ≠ [] ∨ o.opt.isSome = true) ∧
  (∀ ch ∈ o.flags, Utf8.IsChar ch ∧ Bytes.startsWith ch [dash] = false ∧ ∃ a, c.getShort ch = some a ∧ a.takesValue = false) ∧
  (∀ ch v k, o.opt = some (ch, v, k) →
    Utf8.IsChar ch ∧ Bytes.startsWith ch [dash] = false ∧ ∃ a, c.getShort ch = some a ∧ a.takesValue = true ∧
      match k with
      | .attached => v ≠ [] ∧ Bytes.startsWith v [Bytes.eq] = false ∧ a.requireEquals = false
      | .eq => True
      | .sep => Bytes.startsWith v [dash] = false ∧ a.getNumArgs = Range.single ∧ a.requireEquals = false ∧ a.terminator = none)

/-- how the token loop goes on after a cluster, for the answers a well-formed cluster gives; `k` is the rest of the loop -/
def afterShort (k : LoopSt → P → R LoopEnd) (ls : LoopSt) : R (ParseResult × Bool) → Option (R LoopEnd)
  | (p1, .error e) => some (p1, .error e)
  | (p1, .ok (.valuesDone, vaf)) => some (k { ls with validArgFound := vaf, st := .valuesDone } p1)
  | (p1, .ok (.opt id, vaf)) => some (k { ls with validArgFound := vaf, st := .opt id } p1)
  | _ => none

/-- in the ground state a token `-` + characters other than `-` (+ anything) that is no subcommand goes to the flag loop -/
theorem loop_short_ground (c : Cmd) (pp : PlainPos c) (similar : Bytes → Bytes → Bool) (inner : Bytes) (cs : List Bytes)
    (tl : Bytes) (hin : inner = cs.flatten ++ tl) (hcs : ∀ ch ∈ cs, Utf8.IsChar ch ∧ Bytes.startsWith ch [dash] = false)
    (hne : cs ≠ []) (hns : NoSubTok c (dash :: inner)) (ls : LoopSt) (rest : List Bytes) (p : P)
    (htr : ls.trailing = false) (hst : ls.st = .valuesDone) (hfss : p.flagSubSkip = 0) (y : R LoopEnd)
    (h : afterShort (fun ls p => loop c similar ls rest p) ls
      (shortLoop c (ShortFlags.new inner) ((ShortFlags.new inner).chars.length + 2) 0 .noArg ls.validArgFound p) = some y) :
    loop c similar ls ((dash :: inner) :: rest) p = y := by
  have hnd := flatten_noDash cs tl hcs hne
  rw [← hin] at hnd
  obtain ⟨hesc, htl, hts⟩ := cluster_lex inner hnd.1 hnd.2
  rw [loop]
  simp only [htr, Bool.false_eq_true, ↓reduceIte, hns ls.validArgFound, ite_self, hesc, htl, hts, hst,
    parseShortArg_plain c pp _ _ _ p hfss]
  generalize shortLoop c (ShortFlags.new inner) _ 0 .noArg ls.validArgFound p = x at h
  obtain ⟨p1, r⟩ := x
  cases r with
  | error e => cases h; rfl
  | ok rv =>
    obtain ⟨r, v⟩ := rv
    cases r <;> simp only [afterShort, Option.some.injEq, reduceCtorEq] at h <;> subst h <;> simp only [htr]

/-- the reaction to a cluster: the flags, then the option that ends it, if any - its value reacted to, or (next token) left
pending; `k` is the rest of the loop -/
def COcc.run (c : Cmd) (o : COcc) (k : P → R LoopEnd) (p : P) : R LoopEnd :=
  match runFlags c (flagArgs c o.flags) p with
  | (p1, .error e) => (p1, .error e)
  | (p1, .ok ()) =>
    match o.opt with
    | none => k p1
    | some (ch, v, kind) =>
      match c.getShort ch with
      | none => (p1, .error .unknownArgument)
      | some a =>
        match kind with
        | .sep =>
          match resolvePending c p1 with
          | (q, .error e) => (q, .error e)
          | (q, .ok ()) => k { q with pending := some { id := a.id, ident := some .short, rawVals := [v], trailingIdx := none } }
        | _ =>
          match react c (some .short) .cmdline a [v] none p1 with
          | (p2, .error e) => (p2, .error e)
          | (p2, .ok _) => k p2

/-- **a cluster** (`-abc`, `-ab…ovalue`, `-ab…o=value`, `-ab…o value`) in the ground state: one `react` per flag, in order, then
one on the option with exactly the attached bytes, or the next token left pending for it verbatim; then on with the rest -/
theorem loop_cluster_step (c : Cmd) (wf : C01.WF c) (pp : PlainPos c) (similar : Bytes → Bytes → Bool) (o : COcc)
    (hok : o.ok c) (ls : LoopSt) (rest : List Bytes) (p : P) (htr : ls.trailing = false) (hst : ls.st = .valuesDone)
    (hfss : p.flagSubSkip = 0) :
    loop c similar ls (o.spell ++ rest) p =
      o.run c (fun q => loop c similar { ls with validArgFound := true } rest q) p := by
  obtain ⟨hnst, hnonempty, hflags, hopt⟩ := hok
  have hcs : ∀ ch ∈ o.flags, Utf8.IsChar ch ∧ Bytes.startsWith ch [dash] = false := fun ch h => ⟨(hflags ch h).1, (hflags ch h).2.1⟩
  obtain ⟨st0, pc, vaf, tr⟩ := ls
  simp only at htr hst
  subst htr hst
  cases ho : o.opt with
  | none =>
    have hne : o.flags ≠ [] := by
      rcases hnonempty with h | h
      · exact h
      · rw [ho] at h; cases h
    simp only [COcc.spell, ho, List.singleton_append]
    refine loop_short_ground c pp similar _ o.flags [] (by simp) hcs hne (hnst _ (by simp [COcc.spell, ho])) _ rest p
      rfl rfl hfss _ ?_
    rw [shortLoop_cluster_flags c o.flags hflags hne _ (Canon.new _) _ (Nat.le_add_right _ 2)]
    simp only [COcc.run, ho]
    cases runFlags c (flagArgs c o.flags) p with
    | mk p1 r => cases r <;> rfl
  | some x =>
    obtain ⟨ch, v, kind⟩ := x
    obtain ⟨hch, hcd, a, hget, htv, hk⟩ := hopt ch v kind ho
    have hcs' : ∀ x ∈ o.flags ++ [ch], Utf8.IsChar x ∧ Bytes.startsWith x [dash] = false := by
      intro x hx
      rcases List.mem_append.1 hx with hx | hx
      · exact hcs x hx
      · simp at hx; subst hx; exact ⟨hch, hcd⟩
    -- one token `-ab…o<tl>` whose `tl` attaches `v`
    have attachedCase : ∀ (tl : Bytes), kind ≠ .sep → o.spell = [dash :: (o.flags.flatten ++ (ch ++ tl))] →
        (attachedOf tl).1 = some v → (a.requireEquals && !(attachedOf tl).2) = false →
        loop c similar ⟨.valuesDone, pc, vaf, false⟩ (o.spell ++ rest) p =
          o.run c (fun q => loop c similar ⟨.valuesDone, pc, true, false⟩ rest q) p := by
      intro tl hkind hsp hat hreq
      rw [hsp, List.singleton_append]
      refine loop_short_ground c pp similar _ (o.flags ++ [ch]) tl (by simp) hcs' (by simp)
        (hnst _ (by rw [hsp]; simp)) _ rest p rfl rfl hfss _ ?_
      rw [shortLoop_cluster_opt c o.flags hflags ch a hch hget htv tl hreq _ (Canon.new _) _ (Nat.le_add_right _ 2), hat]
      simp only [COcc.run, ho, hget]
      cases runFlags c (flagArgs c o.flags) p with
      | mk p1 r =>
        cases r with
        | error e => rfl
        | ok u =>
          cases kind with
          | sep => exact absurd rfl hkind
          | attached =>
            simp only
            cases react c (some .short) .cmdline a [v] none p1 with
            | mk p2 r2 => cases r2 <;> rfl
          | eq =>
            simp only
            cases react c (some .short) .cmdline a [v] none p1 with
            | mk p2 r2 => cases r2 <;> rfl
    cases kind with
    | attached =>
      obtain ⟨hvne, hveq, hreq⟩ := hk
      exact attachedCase v (by simp) (by simp [COcc.spell, ho]) (by rw [attachedOf_plain v hvne hveq]) (by simp [hreq])
    | eq =>
      exact attachedCase (Bytes.eq :: v) (by simp) (by simp [COcc.spell, ho]) (by rw [attachedOf_eq]) (by rw [attachedOf_eq]; simp)
    | sep =>
      -- `-ab…o`, then the value as the next token
      obtain ⟨hvd, hnum, hreq, hterm⟩ := hk
      obtain ⟨hfind, _⟩ := C01.getShort_spec wf hget
      have hsp : o.spell = [dash :: (o.flags.flatten ++ ch), v] := by simp [COcc.spell, ho]
      rw [hsp]
      simp only [List.cons_append, List.nil_append]
      refine loop_short_ground c pp similar _ (o.flags ++ [ch]) [] (by simp) hcs' (by simp)
        (hnst _ (by rw [hsp]; simp)) _ (v :: rest) p rfl rfl hfss _ ?_
      rw [show o.flags.flatten ++ ch = o.flags.flatten ++ (ch ++ []) by simp,
        shortLoop_cluster_opt c o.flags hflags ch a hch hget htv [] (by simp [hreq]) _ (Canon.new _) _ (Nat.le_add_right _ 2)]
      simp only [COcc.run, ho, hget, attachedOf_nil]
      cases runFlags c (flagArgs c o.flags) p with
      | mk p1 r =>
        cases r with
        | error e => rfl
        | ok u =>
          simp only
          cases resolvePending c p1 with
          | mk q r2 =>
            cases r2 with
            | error e => rfl
            | ok u2 =>
              have := loop_value_step c similar v (hnst v (by rw [hsp]; simp)) a .short hfind hvd hnum hterm
                { st := .opt a.id, posCounter := pc, validArgFound := true, trailing := false } rest
                { q with pending := some { id := a.id, ident := some .short, rawVals := [], trailingIdx := none } } rfl rfl rfl
              simpa [afterShort] using this

/-- an occurrence as the rest of the parser sees it: which key, which value -/
inductive Atom
  | long (name : Bytes) (value : Option Bytes)
  | short (ch : Bytes) (value : Option Bytes)
  | pos (v : Bytes)

/-- the abstract run: one `react` per atom on the arg that owns the key (positionals in index order), with exactly
the atom's value -/
def runAtoms (c : Cmd) : List Atom → Nat → P → R LoopEnd
  | [], _, p => (p, .ok .done)
  | .long n v :: rest, pc, p =>
    match findLong c n with
    | none => (p, .error .unknownArgument)
    | some a =>
      match react c (some .long) .cmdline a v.toList none p with
      | (p1, .error e) => (p1, .error e)
      | (p1, .ok _) => runAtoms c rest pc p1
  | .short ch v :: rest, pc, p =>
    match c.getShort ch with
    | none => (p, .error .unknownArgument)
    | some a =>
      match react c (some .short) .cmdline a v.toList none p with
      | (p1, .error e) => (p1, .error e)
      | (p1, .ok _) => runAtoms c rest pc p1
  | .pos v :: rest, pc, p =>
    match c.getPos pc with
    | none => (p, .error .unknownArgument)
    | some a =>
      match react c (some .index) .cmdline a [v] none p with
      | (p1, .error e) => (p1, .error e)
      | (p1, .ok _) => runAtoms c rest (pc + 1) p1

def COcc.atoms (o : COcc) : List Atom :=
  o.flags.map (fun ch => Atom.short ch none) ++
    match o.opt with
    | none => []
    | some (ch, v, _) => [Atom.short ch (some v)]

inductive Occ3
  | long (o : SOcc)
  | pos (v : Bytes)
  | cluster (o : COcc)

def Occ3.spell : Occ3 → List Bytes
  | .long o => o.spell
  | .pos v => [v]
  | .cluster o => o.spell

def Occ3.atoms : Occ3 → List Atom
  | .long o => [.long o.name o.value]
  | .pos v => [.pos v]
  | .cluster o => o.atoms

def okAll3 (c : Cmd) : List Occ3 → Nat → Prop
  | [], _ => True
  | .long o :: rest, pc => o.ok c ∧ okAll3 c rest pc
  | .cluster o :: rest, pc => o.ok c ∧ okAll3 c rest pc
  | .pos v :: rest, pc => NoSubTok c v ∧ Bytes.startsWith v [dash] = false ∧ (∃ a, c.getPos pc = some a ∧ SinglePos a) ∧ okAll3 c rest (pc + 1)

/-- the positional counter after the occurrences -/
def pcAfter : List Occ3 → Nat → Nat
  | [], pc => pc
  | .pos _ :: rest, pc => pcAfter rest (pc + 1)
  | _ :: rest, pc => pcAfter rest pc

/-! the glue: "whatever is pending is resolved first" as a property of continuations -/

abbrev Obs := Except EK (P × LoopEnd)

/-- `X` resolves what is pending and then behaves like `Y` - for every state whose pending entry satisfies `J`
(`J` excludes pending entries the continuation would rather extend than resolve) -/
def RF (c : Cmd) (J : Option Pending → Prop) (X Y : P → Obs) : Prop :=
  ∀ p, p.flagSubSkip = 0 → J p.pending → X p = match resolvePending c p with
    | (q, .ok ()) => Y q
    | (_, .error e) => .error e

/-- `RF`, asking `flagSubSkip = 0` of the state only if `F`: only a short cluster reads that field, so command lines
without clusters are refined for every state (`F := False`) -/
def Absorbs (c : Cmd) (F : Prop) (J : Option Pending → Prop) (X Y : P → Obs) : Prop :=
  ∀ p, (F → p.flagSubSkip = 0) → J p.pending → X p = match resolvePending c p with
    | (q, .ok ()) => Y q
    | (_, .error e) => .error e

theorem rf_iff {c : Cmd} {J : Option Pending → Prop} {X Y : P → Obs} : RF c J X Y ↔ Absorbs c True J X Y :=
  ⟨fun h p h0 hJ => h p (h0 trivial) hJ, fun h p h0 hJ => h p (fun _ => h0) hJ⟩

theorem Absorbs.at_none {c : Cmd} {F : Prop} {J : Option Pending → Prop} {X Y : P → Obs} (h : Absorbs c F J X Y)
    (hJn : J none) (p : P) (h0 : F → p.flagSubSkip = 0) (hn : p.pending = none) : X p = Y p := by
  rw [h p h0 (by rw [hn]; exact hJn), resolvePending_none c p hn]

theorem Absorbs.congr_rhs {c : Cmd} {F : Prop} {J : Option Pending → Prop} {X Y Y' : P → Obs} (h : Absorbs c F J X Y)
    (hY : ∀ q, Y q = Y' q) : Absorbs c F J X Y' := by
  rw [← funext hY]; exact h

/-- `obs` goes through the `match` a step lemma ends in -/
theorem obs_thenU (c : Cmd) (x : R Unit) (f : P → R LoopEnd) :
    obs c (match x with | (q, .error e) => (q, .error e) | (q, .ok ()) => f q) =
      match x with | (_, .error e) => .error e | (q, .ok ()) => obs c (f q) := by
  cases x with
  | mk q r => cases r <;> rfl

theorem obs_thenR (c : Cmd) (x : R ParseResult) (f : P → R LoopEnd) :
    obs c (match x with | (q, .error e) => (q, .error e) | (q, .ok _) => f q) =
      match x with | (_, .error e) => .error e | (q, .ok _) => obs c (f q) := by
  cases x with
  | mk q r => cases r <;> rfl

theorem Absorbs.ofReact {c : Cmd} {F : Prop} {J : Option Pending → Prop} {K G : P → Obs} (h : Absorbs c F J K G) (hJn : J none)
    (i : Option Ident) (a : Arg) (vals : List Bytes) :
    Absorbs c F J (fun p => match react c i .cmdline a vals none p with
            | (_, .error e) => .error e
            | (p1, .ok _) => K p1)
         (fun q => match react c i .cmdline a vals none q with
            | (_, .error e) => .error e
            | (p1, .ok _) => G p1) := by
  intro p h0 _
  simp only
  cases hr : resolvePending c p with
  | mk q r =>
    have hq0 : q.flagSubSkip = p.flagSubSkip := (resolvePending_stored_of_eq hr).flagSubSkip
    cases r with
    | error e => unfold Parser.react; rw [hr]
    | ok u =>
      have hqn : q.pending = none := resolvePending_ok_pending c p q u hr
      have h1 : react c i .cmdline a vals none p = reactCore c i .cmdline a vals none q := by
        unfold Parser.react; rw [hr]
      cases u
      simp only
      rw [h1, react_none c _ _ _ _ _ q hqn]
      cases hrc : reactCore c i .cmdline a vals none q with
      | mk p1 r1 =>
        have hst := reactCore_stored_of_eq hrc
        cases r1 with
        | error e => rfl
        | ok x => exact h.at_none hJn p1 (fun hF => by rw [hst.flagSubSkip, hq0]; exact h0 hF) (by rw [hst.pending]; exact hqn)

theorem Absorbs.ofPend {c : Cmd} {F : Prop} {J : Option Pending → Prop} {K G : P → Obs} (h : Absorbs c F J K G) (i : Ident)
    (a : Arg) (v : Bytes) (t : Option Nat) (hfind : c.find a.id = some a)
    (hJp : J (some { id := a.id, ident := some i, rawVals := [v], trailingIdx := t })) :
    Absorbs c F J (fun p => match resolvePending c p with
            | (_, .error e) => .error e
            | (q, .ok ()) => K { q with pending := some { id := a.id, ident := some i, rawVals := [v], trailingIdx := t } })
         (fun q => match react c (some i) .cmdline a [v] t q with
            | (_, .error e) => .error e
            | (p1, .ok _) => G p1) := by
  intro p h0 _
  simp only
  cases hr : resolvePending c p with
  | mk q r =>
    have hq0 : q.flagSubSkip = p.flagSubSkip := (resolvePending_stored_of_eq hr).flagSubSkip
    cases r with
    | error e => rfl
    | ok u =>
      have hqn : q.pending = none := resolvePending_ok_pending c p q u hr
      simp only
      rw [h { q with pending := some { id := a.id, ident := some i, rawVals := [v], trailingIdx := t } }
          (fun hF => hq0.trans (h0 hF)) hJp, resolvePending_pended c q a i [v] t hqn hfind, react_none c _ _ _ _ _ q hqn]
      cases reactCore c (some i) .cmdline a [v] t q with
      | mk p1 r1 => cases r1 <;> rfl

theorem Absorbs.ofFlags {c : Cmd} {F : Prop} {J : Option Pending → Prop} {X Y : P → Obs} (h : Absorbs c F J X Y) (hJn : J none) :
    ∀ (as : List Arg),
    Absorbs c F J (fun p => match runFlags c as p with
            | (_, .error e) => .error e
            | (p1, .ok ()) => X p1)
         (fun q => match runFlags c as q with
            | (_, .error e) => .error e
            | (p1, .ok ()) => Y p1)
  | [] => by
    intro p h0 hJ
    simp only [runFlags]
    rw [h p h0 hJ]
  | a :: as => by
    have e1 : ∀ (Z : P → Obs) (p' : P), (match runFlags c (a :: as) p' with
        | (_, .error e) => (.error e : Obs)
        | (p1, .ok ()) => Z p1) =
        (match react c (some .short) .cmdline a [] none p' with
        | (_, .error e) => .error e
        | (p1, .ok _) => match runFlags c as p1 with
          | (_, .error e) => .error e
          | (p1, .ok ()) => Z p1) := by
      intro Z p'
      conv => lhs; unfold runFlags
      cases react c (some .short) .cmdline a [] none p' with
      | mk p1 r => cases r <;> rfl
    intro p h0 hJ
    simp only
    rw [e1 X]
    exact ((Absorbs.ofFlags h hJn as).ofReact hJn (some .short) a []).congr_rhs (fun q => (e1 Y q).symm) p h0 hJ

theorem RF.ofReact {c : Cmd} {J : Option Pending → Prop} {K G : P → Obs} (h : RF c J K G) (hJn : J none)
    (i : Option Ident) (a : Arg) (vals : List Bytes) :
    RF c J (fun p => match react c i .cmdline a vals none p with
            | (_, .error e) => .error e
            | (p1, .ok _) => K p1)
         (fun q => match react c i .cmdline a vals none q with
            | (_, .error e) => .error e
            | (p1, .ok _) => G p1) :=
  rf_iff.2 ((rf_iff.1 h).ofReact hJn i a vals)

theorem RF.ofPend {c : Cmd} {J : Option Pending → Prop} {K G : P → Obs} (h : RF c J K G) (i : Ident) (a : Arg) (v : Bytes)
    (hfind : c.find a.id = some a) (hJp : J (some { id := a.id, ident := some i, rawVals := [v], trailingIdx := none })) :
    RF c J (fun p => match resolvePending c p with
            | (_, .error e) => .error e
            | (q, .ok ()) => K { q with pending := some { id := a.id, ident := some i, rawVals := [v], trailingIdx := none } })
         (fun q => match react c (some i) .cmdline a [v] none q with
            | (_, .error e) => .error e
            | (p1, .ok _) => G p1) :=
  rf_iff.2 ((rf_iff.1 h).ofPend i a v none hfind hJp)

theorem RF.ofFlags {c : Cmd} {J : Option Pending → Prop} {X Y : P → Obs} (h : RF c J X Y) (hJn : J none) : ∀ (as : List Arg),
    RF c J (fun p => match runFlags c as p with
            | (_, .error e) => .error e
            | (p1, .ok ()) => X p1)
         (fun q => match runFlags c as q with
            | (_, .error e) => .error e
            | (p1, .ok ()) => Y p1) :=
  fun as => rf_iff.2 ((rf_iff.1 h).ofFlags hJn as)

/-- the abstract run with a continuation: one `react` per atom, then `k` on the positional counter and state reached -/
def runAtomsK (c : Cmd) : List Atom → Nat → P → (Nat → P → Obs) → Obs
  | [], pc, p, k => k pc p
  | .long n v :: rest, pc, p, k =>
    match findLong c n with
    | none => .error .unknownArgument
    | some a =>
      match react c (some .long) .cmdline a v.toList none p with
      | (_, .error e) => .error e
      | (p1, .ok _) => runAtomsK c rest pc p1 k
  | .short ch v :: rest, pc, p, k =>
    match c.getShort ch with
    | none => .error .unknownArgument
    | some a =>
      match react c (some .short) .cmdline a v.toList none p with
      | (_, .error e) => .error e
      | (p1, .ok _) => runAtomsK c rest pc p1 k
  | .pos v :: rest, pc, p, k =>
    match c.getPos pc with
    | none => .error .unknownArgument
    | some a =>
      match react c (some .index) .cmdline a [v] none p with
      | (_, .error e) => .error e
      | (p1, .ok _) => runAtomsK c rest (pc + 1) p1 k

/-! an atom is: which arg, named how, with which values, and what it does to the positional counter -/

def Atom.arg (c : Cmd) (pc : Nat) : Atom → Option Arg
  | .long n _ => findLong c n
  | .short ch _ => c.getShort ch
  | .pos _ => c.getPos pc

def Atom.ident : Atom → Ident
  | .long .. => .long
  | .short .. => .short
  | .pos _ => .index

def Atom.vals : Atom → List Bytes
  | .long _ v => v.toList
  | .short _ v => v.toList
  | .pos v => [v]

def Atom.next (pc : Nat) : Atom → Nat
  | .pos _ => pc + 1
  | _ => pc

theorem runAtomsK_cons (c : Cmd) (x : Atom) (l : List Atom) (pc : Nat) (p : P) (k : Nat → P → Obs) :
    runAtomsK c (x :: l) pc p k =
      match x.arg c pc with
      | none => .error .unknownArgument
      | some a =>
        match react c (some x.ident) .cmdline a x.vals none p with
        | (_, .error e) => .error e
        | (p1, .ok _) => runAtomsK c l (x.next pc) p1 k := by
  cases x <;> rfl

theorem runAtoms_cons (c : Cmd) (x : Atom) (l : List Atom) (pc : Nat) (p : P) :
    runAtoms c (x :: l) pc p =
      match x.arg c pc with
      | none => (p, .error .unknownArgument)
      | some a =>
        match react c (some x.ident) .cmdline a x.vals none p with
        | (p1, .error e) => (p1, .error e)
        | (p1, .ok _) => runAtoms c l (x.next pc) p1 := by
  cases x <;> rfl

/-- with the continuation "the loop is done" this is the abstract run -/
theorem runAtomsK_done (c : Cmd) : ∀ (l : List Atom) (pc : Nat) (p : P),
    runAtomsK c l pc p (fun _ q => .ok (q, .done)) = obsA (runAtoms c l pc p)
  | [], _, _ => rfl
  | x :: l, pc, p => by
    rw [runAtomsK_cons, runAtoms_cons]
    cases x.arg c pc with
    | none => rfl
    | some a =>
      simp only
      cases react c (some x.ident) .cmdline a x.vals none p with
      | mk p1 r =>
        cases r with
        | error e => rfl
        | ok _ => exact runAtomsK_done c l _ p1

/-- one step of the abstract run on an atom whose arg is found -/
theorem runAtomsK_found (c : Cmd) {x : Atom} {a : Arg} (l : List Atom) {pc : Nat} (p : P) (k : Nat → P → Obs)
    (h : x.arg c pc = some a) :
    runAtomsK c (x :: l) pc p k =
      match react c (some x.ident) .cmdline a x.vals none p with
      | (_, .error e) => .error e
      | (p1, .ok _) => runAtomsK c l (x.next pc) p1 k := by
  rw [runAtomsK_cons, h]

/-- the abstract run on the atoms of a cluster's flags is `runFlags` -/
theorem runAtomsK_flags (c : Cmd) (k : Nat → P → Obs) : ∀ (flags : List Bytes), FlagsOk c flags →
    ∀ (more : List Atom) (pc : Nat) (p : P),
    runAtomsK c (flags.map (fun ch => Atom.short ch none) ++ more) pc p k =
      match runFlags c (flagArgs c flags) p with
      | (_, .error e) => .error e
      | (p1, .ok ()) => runAtomsK c more pc p1 k
  | [], _, more, pc, p => by simp [flagArgs, runFlags]
  | ch :: flags, h, more, pc, p => by
    obtain ⟨_, _, a, hget, _⟩ := h ch List.mem_cons_self
    simp only [List.map_cons, List.cons_append, flagArgs_cons hget, runFlags]
    rw [runAtomsK_found c (x := .short ch none) _ p k hget]
    simp only [Atom.ident, Atom.vals, Atom.next, Option.toList_none]
    cases react c (some .short) .cmdline a [] none p with
    | mk p1 r =>
      cases r with
      | error e => rfl
      | ok x => exact runAtomsK_flags c k flags (fun x hx => h x (List.mem_cons_of_mem _ hx)) more pc p1

/-- the loop state after the occurrences: the positional counter has moved past the positional values, and a valid
argument has been seen as soon as there was one occurrence -/
def lsAfter (ls : LoopSt) (occs : List Occ3) : LoopSt :=
  { ls with posCounter := pcAfter occs ls.posCounter, validArgFound := ls.validArgFound || !occs.isEmpty }

theorem lsAfter_nil (ls : LoopSt) : lsAfter ls [] = ls := by cases ls; simp [lsAfter, pcAfter]

theorem lsAfter_cons (ls : LoopSt) (o : Occ3) (rest : List Occ3) : lsAfter ls (o :: rest) = lsAfter (lsAfter ls [o]) rest := by
  cases o <;> simp [lsAfter, pcAfter]

theorem lsAfter_one (ls : LoopSt) (o : Occ3) :
    lsAfter ls [o] = { ls with posCounter := pcAfter [o] ls.posCounter, validArgFound := true } := by
  simp [lsAfter]

/-! #### one spelt occurrence is observed as its atoms; one induction over the line -/

/-- `J` admits what the occurrences leave pending between two tokens: nothing, or one value for an arg that takes one -/
structure Admits (c : Cmd) (J : Option Pending → Prop) : Prop where
  nil : J none
  one : ∀ (a : Arg) (i : Ident) (v : Bytes), c.find a.id = some a → (a.index = none ∨ SinglePos a) →
    J (some { id := a.id, ident := some i, rawVals := [v], trailingIdx := none })

/-- in the ground state with the positional counter at `pc`, the occurrence `o` is observed as its atoms, whatever follows:
`tail` on the command line, observed as `more` and `k` -/
def Seg (c : Cmd) (similar : Bytes → Bytes → Bool) (F : Prop) (J : Option Pending → Prop) (o : Occ3) (pc : Nat) : Prop :=
  ∀ (ls : LoopSt) (tail : List Bytes) (more : List Atom) (k : Nat → P → Obs),
    ls.posCounter = pc → ls.trailing = false → ls.st = .valuesDone →
    Absorbs c F J (fun p => obs c (loop c similar (lsAfter ls [o]) tail p)) (fun q => runAtomsK c more (pcAfter [o] pc) q k) →
    Absorbs c F J (fun p => obs c (loop c similar ls (o.spell ++ tail) p)) (fun q => runAtomsK c (o.atoms ++ more) pc q k)

def segAll (c : Cmd) (similar : Bytes → Bytes → Bool) (F : Prop) (J : Option Pending → Prop) : List Occ3 → Nat → Prop
  | [], _ => True
  | o :: rest, pc => Seg c similar F J o pc ∧ segAll c similar F J rest (pcAfter [o] pc)

/-- **the refinement**: a line of occurrences each of which is observed as its atoms is observed as all the atoms, one
`react` each; whatever follows them (`tail`) is met in the state they leave, with the loop state `lsAfter` -/
theorem loop_segs (c : Cmd) (similar : Bytes → Bytes → Bool) (F : Prop) (J : Option Pending → Prop) (tail : List Bytes)
    (more : List Atom) (k : Nat → P → Obs) :
    ∀ (occs : List Occ3) (ls : LoopSt), segAll c similar F J occs ls.posCounter → ls.trailing = false → ls.st = .valuesDone →
      Absorbs c F J (fun p => obs c (loop c similar (lsAfter ls occs) tail p))
        (fun q => runAtomsK c more (pcAfter occs ls.posCounter) q k) →
      Absorbs c F J (fun p => obs c (loop c similar ls (occs.flatMap Occ3.spell ++ tail) p))
        (fun q => runAtomsK c (occs.flatMap Occ3.atoms ++ more) ls.posCounter q k)
  | [], ls, _, _, _, hG => by
    rw [lsAfter_nil] at hG
    simpa [pcAfter] using hG
  | o :: rest, ls, ⟨ho, hrest⟩, htr, hst, hG => by
    have hpc : pcAfter (o :: rest) ls.posCounter = pcAfter rest (lsAfter ls [o]).posCounter := by
      cases o <;> simp [lsAfter, pcAfter]
    rw [lsAfter_cons, hpc] at hG
    have := ho ls _ _ k rfl htr hst (loop_segs c similar F J tail more k rest (lsAfter ls [o]) hrest htr hst hG)
    simpa only [List.flatMap_cons, List.append_assoc] using this

theorem Seg.pos {c : Cmd} {F : Prop} {J : Option Pending → Prop} (hJ : Admits c J) (wf : C01.WF c) (sp : SimplePos c)
    (similar : Bytes → Bytes → Bool) (v : Bytes) (pc : Nat) (hnsv : NoSubTok c v) (hv : Bytes.startsWith v [dash] = false) (a : Arg)
    (hget : c.getPos pc = some a) (hsingle : SinglePos a) : Seg c similar F J (.pos v) pc := by
  intro ls tail more k hpc htr hst hG
  subst hpc
  obtain ⟨hfind, _⟩ := C01.getPos_spec wf hget
  rw [lsAfter_one] at hG
  intro p h0 hJp
  simp only [Occ3.spell, Occ3.atoms, List.singleton_append]
  rw [loop_pos_step c wf sp similar v hnsv a hsingle hv ls _ p htr hst hget]
  refine (obs_thenU c _ _).trans ?_
  exact ((hG.ofPend .index a v none hfind (hJ.one a .index v hfind (Or.inr hsingle))).congr_rhs
    (fun q => (runAtomsK_found c (x := .pos v) _ q k hget).symm)) p h0 hJp

theorem Seg.long {c : Cmd} {F : Prop} {J : Option Pending → Prop} (hJ : Admits c J) (wf : C01.WF c)
    (similar : Bytes → Bytes → Bool) (o : SOcc) (hok : o.ok c) (pc : Nat) : Seg c similar F J (.long o) pc := by
  intro ls tail more k hpc htr hst hG
  subst hpc
  obtain ⟨⟨hns, hname, hne, hutf, a, hget, htv⟩, hsep⟩ := hok
  simp only [SOcc.toL] at hns hname hne hutf hget htv
  obtain ⟨hfind, hidx⟩ := C01.findLong_spec wf hget
  rw [lsAfter_one] at hG
  intro p h0 hJp
  simp only [Occ3.spell, Occ3.atoms, List.singleton_append]
  -- `--name=value`, `--flag`: one token, one `react`
  have one : o.spell = [o.toL.spell] →
      obs c (loop c similar ls (o.spell ++ tail) p) =
        match resolvePending c p with
        | (q, .ok ()) => runAtomsK c (.long o.name o.value :: more) ls.posCounter q k
        | (_, .error e) => .error e := by
    intro hsp
    rw [hsp, List.singleton_append, loop_long_step c similar o.toL hns a hname hne hutf hget htv ls _ p htr hst]
    refine (obs_thenR c _ _).trans ?_
    exact ((hG.ofReact hJ.nil (some .long) a o.value.toList).congr_rhs
      (fun q => (runAtomsK_found c (x := .long o.name o.value) _ q k hget).symm)) p h0 hJp
  cases hv : o.value with
  | none => rw [← hv]; exact one (by simp [SOcc.spell, hv])
  | some v =>
    cases hs : o.sep with
    | false => rw [← hv]; exact one (by simp [SOcc.spell, hv, hs])
    | true =>
      -- `--name value`: the value is left pending
      obtain ⟨hns1, hnsv, hvd, hnum, hreq, hterm⟩ := hsep hs v hv a hget
      have hsp : o.spell = [dash :: dash :: o.name, v] := by simp [SOcc.spell, hv, hs]
      rw [hsp]
      simp only [List.cons_append, List.nil_append]
      rw [loop_sep_step c wf similar o.name v hns1 hnsv a hname hne hutf hget (by rw [htv, hv]; rfl) hvd hnum hreq hterm
        ls _ p htr hst]
      refine (obs_thenU c _ _).trans ?_
      exact ((hG.ofPend .long a v none hfind (hJ.one a .long v hfind (Or.inl hidx))).congr_rhs
        (fun q => (runAtomsK_found c (x := .long o.name (some v)) _ q k hget).symm)) p h0 hJp

/-- the reaction to a cluster is observed as the cluster's atoms -/
theorem COcc.run_absorbs {c : Cmd} {F : Prop} {J : Option Pending → Prop} (hJ : Admits c J) (wf : C01.WF c) (o : COcc)
    (hok : o.ok c) {K : P → R LoopEnd} {more : List Atom} {pc : Nat} {k : Nat → P → Obs}
    (hG : Absorbs c F J (fun p => obs c (K p)) (fun q => runAtomsK c more pc q k)) :
    Absorbs c F J (fun p => obs c (o.run c K p)) (fun q => runAtomsK c (o.atoms ++ more) pc q k) := by
  obtain ⟨_, _, hflags, hopt⟩ := hok
  cases ho : o.opt with
  | none =>
    intro p h0 hJp
    simp only [COcc.run, ho, COcc.atoms, List.append_nil]
    refine (obs_thenU c _ _).trans ?_
    exact ((hG.ofFlags hJ.nil _).congr_rhs (fun q => (runAtomsK_flags c _ o.flags hflags _ _ q).symm)) p h0 hJp
  | some x =>
    obtain ⟨ch, v, kind⟩ := x
    obtain ⟨_, _, a, hget, _, _⟩ := hopt ch v kind ho
    obtain ⟨hfind, hidx⟩ := C01.getShort_spec wf hget
    -- after the flags both sides come to the option's atom, then the rest
    have hrhs : ∀ q, (match runFlags c (flagArgs c o.flags) q with
          | (_, .error e) => .error e
          | (p1, .ok ()) => match react c (some .short) .cmdline a [v] none p1 with
            | (_, .error e) => .error e
            | (p2, .ok _) => runAtomsK c more pc p2 k) =
        runAtomsK c (o.flags.map (fun ch => Atom.short ch none) ++ ([Atom.short ch (some v)] ++ more)) pc q k := by
      intro q
      rw [runAtomsK_flags c _ o.flags hflags]
      simp only [List.singleton_append, runAtomsK_found c (x := .short ch (some v)) _ _ k hget]
      rfl
    -- the value is reacted to at once (`-ovalue`, `-o=value`), or left pending (`-o value`)
    have viaReact : Absorbs c F J (fun p => obs c (match runFlags c (flagArgs c o.flags) p with
          | (p1, .error e) => (p1, .error e)
          | (p1, .ok ()) => match react c (some .short) .cmdline a [v] none p1 with
            | (p2, .error e) => (p2, .error e)
            | (p2, .ok _) => K p2)) (fun q => runAtomsK c (o.atoms ++ more) pc q k) := by
      have hK : Absorbs c F J (fun p1 => obs c (match react c (some .short) .cmdline a [v] none p1 with
            | (p2, .error e) => (p2, .error e)
            | (p2, .ok _) => K p2)) _ :=
        fun p1 h1 hJ1 => (obs_thenR c _ _).trans ((hG.ofReact hJ.nil (some .short) a [v]) p1 h1 hJ1)
      intro p h0 hJp
      simp only [COcc.atoms, ho, List.append_assoc]
      exact (obs_thenU c _ _).trans (((hK.ofFlags hJ.nil _).congr_rhs hrhs) p h0 hJp)
    cases kind with
    | attached => intro p h0 hJp; simp only [COcc.run, ho, hget]; exact viaReact p h0 hJp
    | eq => intro p h0 hJp; simp only [COcc.run, ho, hget]; exact viaReact p h0 hJp
    | sep =>
      have hK : Absorbs c F J (fun p1 => obs c (match resolvePending c p1 with
            | (q, .error e) => (q, .error e)
            | (q, .ok ()) => K { q with pending := some { id := a.id, ident := some .short, rawVals := [v], trailingIdx := none } })) _ :=
        fun p1 h1 hJ1 => (obs_thenU c _ _).trans ((hG.ofPend .short a v none hfind (hJ.one a .short v hfind (Or.inl hidx))) p1 h1 hJ1)
      intro p h0 hJp
      simp only [COcc.run, ho, hget, COcc.atoms, List.append_assoc]
      exact (obs_thenU c _ _).trans (((hK.ofFlags hJ.nil _).congr_rhs hrhs) p h0 hJp)

theorem Seg.cluster {c : Cmd} {F : Prop} {J : Option Pending → Prop} (hF : F) (hJ : Admits c J) (wf : C01.WF c)
    (pp : PlainPos c) (similar : Bytes → Bytes → Bool) (o : COcc) (hok : o.ok c) (pc : Nat) :
    Seg c similar F J (.cluster o) pc := by
  intro ls tail more k hpc htr hst hG
  subst hpc
  rw [lsAfter_one, show pcAfter [Occ3.cluster o] ls.posCounter = ls.posCounter from rfl] at hG
  intro p h0 hJp
  simp only [Occ3.spell, Occ3.atoms]
  rw [loop_cluster_step c wf pp similar o hok ls tail p htr hst (h0 hF)]
  exact o.run_absorbs hJ wf hok hG p h0 hJp

theorem segAll_of_okAll3 {c : Cmd} {F : Prop} {J : Option Pending → Prop} (hF : F) (hJ : Admits c J) (wf : C01.WF c)
    (sp : SimplePos c) (pp : PlainPos c) (similar : Bytes → Bytes → Bool) :
    ∀ (occs : List Occ3) (pc : Nat), okAll3 c occs pc → segAll c similar F J occs pc
  | [], _, _ => trivial
  | .long o :: rest, pc, ⟨h, hr⟩ => ⟨Seg.long hJ wf similar o h pc, segAll_of_okAll3 hF hJ wf sp pp similar rest pc hr⟩
  | .cluster o :: rest, pc, ⟨h, hr⟩ => ⟨Seg.cluster hF hJ wf pp similar o h pc, segAll_of_okAll3 hF hJ wf sp pp similar rest pc hr⟩
  | .pos v :: rest, pc, ⟨h1, h2, ⟨a, hg, hs⟩, hr⟩ =>
    ⟨Seg.pos hJ wf sp similar v pc h1 h2 a hg hs, segAll_of_okAll3 hF hJ wf sp pp similar rest (pc + 1) hr⟩

/-- **the refinement with a continuation**: the occurrences are observed as one `react` each; whatever follows them on
the command line (`tail`) is met in the state they leave, with the loop state `lsAfter` -/
theorem loop_clusters_then (c : Cmd) (wf : C01.WF c) (sp : SimplePos c) (pp : PlainPos c) (similar : Bytes → Bytes → Bool)
    (tail : List Bytes) (J : Option Pending → Prop) (hJn : J none)
    (hJocc : ∀ (a : Arg) (i : Ident) (v : Bytes), c.find a.id = some a → (a.index = none ∨ SinglePos a) →
      J (some { id := a.id, ident := some i, rawVals := [v], trailingIdx := none })) :
    ∀ (occs : List Occ3) (ls : LoopSt), okAll3 c occs ls.posCounter → ls.trailing = false → ls.st = .valuesDone →
      ∀ (G : P → Obs), RF c J (fun p => obs c (loop c similar (lsAfter ls occs) tail p)) G →
      RF c J (fun p => obs c (loop c similar ls (occs.flatMap Occ3.spell ++ tail) p))
           (fun q => runAtomsK c (occs.flatMap Occ3.atoms) ls.posCounter q (fun _ q' => G q')) := by
  intro occs ls hok htr hst G hG
  have := loop_segs c similar True J tail [] (fun _ q' => G q') occs ls
    (segAll_of_okAll3 trivial ⟨hJn, hJocc⟩ wf sp pp similar occs _ hok) htr hst (rf_iff.1 hG)
  rw [List.append_nil] at this
  exact rf_iff.2 this

/-- the line is over: the caller resolves what is pending -/
theorem absorbs_done (c : Cmd) (similar : Bytes → Bytes → Bool) (F : Prop) (J : Option Pending → Prop) (ls : LoopSt) (pc : Nat) :
    Absorbs c F J (fun p => obs c (loop c similar ls [] p)) (fun q => runAtomsK c [] pc q (fun _ q' => .ok (q', .done))) := by
  intro p _ _
  simp only [loop, obs, runAtomsK]
  cases resolvePending c p with
  | mk q r => cases r <;> rfl

/-- a whole line of occurrences each of which is observed as its atoms, for every state -/
theorem loop_segs_done (c : Cmd) (similar : Bytes → Bytes → Bool) (F : Prop) (occs : List Occ3) (ls : LoopSt) (p : P)
    (hs : segAll c similar F (fun _ => True) occs ls.posCounter) (htr : ls.trailing = false) (hst : ls.st = .valuesDone)
    (h0 : F → p.flagSubSkip = 0) :
    obs c (loop c similar ls (occs.flatMap Occ3.spell) p) =
      match resolvePending c p with
      | (q, .ok ()) => obsA (runAtoms c (occs.flatMap Occ3.atoms) ls.posCounter q)
      | (_, .error e) => .error e := by
  have := loop_segs c similar F _ [] [] _ occs ls hs htr hst (absorbs_done c similar F _ _ _) p h0 trivial
  simp only [List.append_nil] at this
  rw [this]
  cases resolvePending c p with
  | mk q r =>
    cases r with
    | error e => rfl
    | ok u => exact runAtomsK_done c _ _ q

theorem admits_true (c : Cmd) : Admits c (fun _ => True) := ⟨trivial, fun _ _ _ _ _ => trivial⟩

/-- **attribution for long options, short clusters and positionals, any length** (C02): on a level whose positionals
are single-valued and take no hyphen values, a command line mixing long options (`--name=value`, `--name value`,
`--flag`, by name, alias or unambiguous prefix), short clusters (`-abc`, `-ovalue`, `-o=value`, `-o value`,
`-abovalue`, …) and positional values, none of them a subcommand name, is observed by the rest of the parser as
exactly the sequence of occurrences it spells: one `react` per flag character / option / positional value, on the
arg that owns the key (or whose turn it is), with exactly the value's bytes, in argv order - nothing invented,
dropped, duplicated or given to another arg -/
theorem loop_clusters (c : Cmd) (wf : C01.WF c) (sp : SimplePos c) (pp : PlainPos c) (similar : Bytes → Bytes → Bool)
    (occs : List Occ3) (ls : LoopSt) (p : P) (hok : okAll3 c occs ls.posCounter)
    (htr : ls.trailing = false) (hst : ls.st = .valuesDone) (hfss : p.flagSubSkip = 0) :
    obs c (loop c similar ls (occs.flatMap Occ3.spell) p) =
      match resolvePending c p with
      | (q, .ok ()) => obsA (runAtoms c (occs.flatMap Occ3.atoms) ls.posCounter q)
      | (_, .error e) => .error e :=
  loop_segs_done c similar True occs ls p (segAll_of_okAll3 trivial (admits_true c) wf sp pp similar occs _ hok) htr hst
    (fun _ => hfss)

/-- **... and then the subcommand** (C02 / C09): when the occurrences are followed by a token that names a subcommand
of the level (by name, alias or unambiguous prefix; not the generated `help`), the loop ends there: the occurrences
are attributed as above, and the hand-over carries exactly the subcommand found and the untouched rest of argv -/
theorem loop_then_subcommand (c : Cmd) (wf : C01.WF c) (sp : SimplePos c) (pp : PlainPos c) (similar : Bytes → Bytes → Bool)
    (occs : List Occ3) (ls : LoopSt) (p : P) (name sc : Bytes) (rest : List Bytes) (hok : okAll3 c occs ls.posCounter)
    (htr : ls.trailing = false) (hst : ls.st = .valuesDone) (hfss : p.flagSubSkip = 0)
    (hsub : possibleSubcommand c name (ls.validArgFound || !occs.isEmpty) = some sc)
    (hnh : (sc == Build.b_help && !c.settings.disableHelpSubcommand) = false) :
    obs c (loop c similar ls (occs.flatMap Occ3.spell ++ name :: rest) p) =
      match resolvePending c p with
      | (q, .ok ()) => runAtomsK c (occs.flatMap Occ3.atoms) ls.posCounter q
          (fun _ q' => .ok (q', .sub sc rest false (ls.validArgFound || !occs.isEmpty)))
      | (_, .error e) => .error e := by
  have hend : RF c (fun _ => True) (fun p => obs c (loop c similar (lsAfter ls occs) (name :: rest) p))
      (fun q => .ok (q, .sub sc rest false (ls.validArgFound || !occs.isEmpty))) := by
    intro p' _ _
    have h1 : (lsAfter ls occs).trailing = false := htr
    have h2 : (lsAfter ls occs).st = .valuesDone := hst
    have h3 : (lsAfter ls occs).validArgFound = (ls.validArgFound || !occs.isEmpty) := rfl
    generalize lsAfter ls occs = ls' at h1 h2 h3
    show obs c (loop c similar ls' (name :: rest) p') = _
    rw [loop]
    simp only [h1, Bool.false_eq_true, ↓reduceIte, h2, BEq.rfl, Bool.or_true, h3, hsub, hnh, obs]
    cases resolvePending c p' with
    | mk q r => cases r <;> rfl
  exact loop_clusters_then c wf sp pp similar (name :: rest) (fun _ => True) trivial (fun _ _ _ _ _ => trivial) occs ls hok htr hst _ hend p hfss trivial

/-- the way a key was written (short or long) does not matter to `react` -/
theorem react_short_long (c : Cmd) (s : Source) (a : Arg) (vals : List Bytes) (t : Option Nat) (p : P) :
    react c (some .short) s a vals t p = react c (some .long) s a vals t p := by
  have hb : ∀ q, bumpIdx s (some .short) q = bumpIdx s (some .long) q := by intro q; simp [bumpIdx]
  unfold Parser.react reactCore
  simp only [hb]

/-- what an atom means: the arg its key names (positionals: the one whose turn it is) and the values -/
def Atom.meaning (c : Cmd) : Atom → Option Arg × Bool × List Bytes
  | .long n v => (findLong c n, false, v.toList)
  | .short ch v => (c.getShort ch, false, v.toList)
  | .pos v => (none, true, [v])

/-- atoms with the same meaning are the same step of the abstract run -/
theorem meaning_step (c : Cmd) (pc : Nat) (x y : Atom) (h : x.meaning c = y.meaning c) :
    x.arg c pc = y.arg c pc ∧ x.vals = y.vals ∧ x.next pc = y.next pc ∧
      ∀ a p, react c (some x.ident) .cmdline a x.vals none p = react c (some y.ident) .cmdline a y.vals none p := by
  cases x <;> cases y <;>
    simp only [Atom.meaning, Prod.mk.injEq, Bool.false_eq_true, Bool.true_eq_false, and_false, false_and, true_and] at h <;>
    simp only [Atom.arg, Atom.vals, Atom.next, Atom.ident, h, react_short_long, implies_true, and_self]

theorem runAtoms_congr (c : Cmd) : ∀ (l l' : List Atom), l.map (Atom.meaning c) = l'.map (Atom.meaning c) →
    ∀ pc p, runAtoms c l pc p = runAtoms c l' pc p
  | [], [], _, _, _ => rfl
  | [], _ :: _, h, _, _ => by simp at h
  | _ :: _, [], h, _, _ => by simp at h
  | x :: l, y :: l', h, pc, p => by
    simp only [List.map_cons, List.cons.injEq] at h
    obtain ⟨h1, h2, h3, h4⟩ := meaning_step c pc x y h.1
    rw [runAtoms_cons, runAtoms_cons, h1, h3]
    cases y.arg c pc with
    | none => rfl
    | some a =>
      simp only
      rw [h4]
      cases react c (some y.ident) .cmdline a y.vals none p with
      | mk p1 r =>
        cases r with
        | error e => rfl
        | ok _ => exact runAtoms_congr c l l' h.2 _ p1

/-- equal meanings, equal observations: the one statement behind the "equivalent spellings" theorems -/
theorem segs_equivalent (c : Cmd) (similar : Bytes → Bytes → Bool) (F : Prop) (occs occs' : List Occ3) (ls : LoopSt) (p : P)
    (hs : segAll c similar F (fun _ => True) occs ls.posCounter) (hs' : segAll c similar F (fun _ => True) occs' ls.posCounter)
    (hsame : (occs.flatMap Occ3.atoms).map (Atom.meaning c) = (occs'.flatMap Occ3.atoms).map (Atom.meaning c))
    (htr : ls.trailing = false) (hst : ls.st = .valuesDone) (h0 : F → p.flagSubSkip = 0) :
    obs c (loop c similar ls (occs.flatMap Occ3.spell) p) = obs c (loop c similar ls (occs'.flatMap Occ3.spell) p) := by
  rw [loop_segs_done c similar F occs ls p hs htr hst h0, loop_segs_done c similar F occs' ls p hs' htr hst h0]
  have := runAtoms_congr c _ _ hsame
  cases resolvePending c p with
  | mk q r => cases r <;> simp [this]

/-- **equivalent spellings** (C08, whole command lines): two command lines over long options, short clusters and
positional values that spell the same occurrences - differing in `--opt=v` vs `--opt v`, `-ov` vs `-o v` vs `-o=v`,
a cluster `-abc` vs separate `-a -b -c`, an alias or unambiguous prefix vs the canonical name, the short vs the long
name of the same arg - are observed identically: the same matches-in-progress or the same error -/
theorem spellings_equivalent_all (c : Cmd) (wf : C01.WF c) (sp : SimplePos c) (pp : PlainPos c)
    (similar : Bytes → Bytes → Bool) (occs occs' : List Occ3) (ls : LoopSt) (p : P)
    (hok : okAll3 c occs ls.posCounter) (hok' : okAll3 c occs' ls.posCounter)
    (hsame : (occs.flatMap Occ3.atoms).map (Atom.meaning c) = (occs'.flatMap Occ3.atoms).map (Atom.meaning c))
    (htr : ls.trailing = false) (hst : ls.st = .valuesDone) (hfss : p.flagSubSkip = 0) :
    obs c (loop c similar ls (occs.flatMap Occ3.spell) p) = obs c (loop c similar ls (occs'.flatMap Occ3.spell) p) :=
  segs_equivalent c similar True occs occs' ls p (segAll_of_okAll3 trivial (admits_true c) wf sp pp similar occs _ hok)
    (segAll_of_okAll3 trivial (admits_true c) wf sp pp similar occs' _ hok') hsame htr hst (fun _ => hfss)

/-! #### lines without clusters: the occurrence types of C02Attr / C02Attr2 inside `Occ3`; no hypothesis on `flagSubSkip` -/

def Occ.up : Occ → Occ3
  | .opt o => .long o
  | .pos v => .pos v

theorem segAll_of_okAll {c : Cmd} (wf : C01.WF c) (sp : SimplePos c) (similar : Bytes → Bytes → Bool) :
    ∀ (occs : List Occ) (pc : Nat), okAll c occs pc → segAll c similar False (fun _ => True) (occs.map Occ.up) pc
  | [], _, _ => trivial
  | .opt o :: rest, pc, ⟨h, hr⟩ => ⟨Seg.long (admits_true c) wf similar o h pc, segAll_of_okAll wf sp similar rest pc hr⟩
  | .pos v :: rest, pc, ⟨h1, h2, ⟨a, hg, hs⟩, hr⟩ =>
    ⟨Seg.pos (admits_true c) wf sp similar v pc h1 h2 a hg hs, segAll_of_okAll wf sp similar rest (pc + 1) hr⟩

theorem spell_up : ∀ (occs : List Occ), (occs.map Occ.up).flatMap Occ3.spell = occs.flatMap Occ.spell
  | [] => rfl
  | o :: rest => by cases o <;> simp [Occ.up, Occ3.spell, Occ.spell, spell_up rest]

theorem runAll_up (c : Cmd) : ∀ (occs : List Occ) (pc : Nat) (q : P),
    runAtoms c ((occs.map Occ.up).flatMap Occ3.atoms) pc q = runAll c occs pc q
  | [], _, _ => rfl
  | .opt o :: rest, pc, q => by
    simp only [List.map_cons, List.flatMap_cons, Occ.up, Occ3.atoms, List.singleton_append]
    unfold runAtoms runAll
    cases findLong c o.name with
    | none => rfl
    | some a =>
      simp only
      cases react c (some .long) .cmdline a o.value.toList none q with
      | mk p1 r =>
        cases r with
        | error e => rfl
        | ok x => exact runAll_up c rest pc p1
  | .pos v :: rest, pc, q => by
    simp only [List.map_cons, List.flatMap_cons, Occ.up, Occ3.atoms, List.singleton_append]
    unfold runAtoms runAll
    cases c.getPos pc with
    | none => rfl
    | some a =>
      simp only
      cases react c (some .index) .cmdline a [v] none q with
      | mk p1 r =>
        cases r with
        | error e => rfl
        | ok x => exact runAll_up c rest (pc + 1) p1

/-- **attribution for options, flags and positionals, any length**: on a level without subcommands whose positionals
are single-valued, a command line mixing long options (canonical name, alias or unambiguous prefix; value attached
or in the next token), flags and positional values is observed by the rest of the parser as exactly the sequence of
occurrences it spells: one `react` per occurrence, on the owner of the name or on the positional whose turn it is,
with exactly the value's bytes, in argv order -/
theorem loop_occurrences (c : Cmd) (wf : C01.WF c) (sp : SimplePos c) (similar : Bytes → Bytes → Bool) :
    ∀ (occs : List Occ) (ls : LoopSt) (p : P), okAll c occs ls.posCounter → ls.trailing = false → ls.st = .valuesDone →
      obs c (loop c similar ls (occs.flatMap Occ.spell) p) =
        match resolvePending c p with
        | (q, .ok ()) => obsA (runAll c occs ls.posCounter q)
        | (_, .error e) => .error e := by
  intro occs ls p hok htr hst
  have := loop_segs_done c similar False (occs.map Occ.up) ls p (segAll_of_okAll wf sp similar occs _ hok) htr hst False.elim
  simpa only [spell_up, runAll_up] using this

theorem segAll_of_SOcc {c : Cmd} (wf : C01.WF c) (similar : Bytes → Bytes → Bool) (pc : Nat) :
    ∀ (occs : List SOcc), (∀ o ∈ occs, o.ok c) → segAll c similar False (fun _ => True) (occs.map Occ3.long) pc
  | [], _ => trivial
  | o :: rest, h => ⟨Seg.long (admits_true c) wf similar o (h o List.mem_cons_self) pc,
      segAll_of_SOcc wf similar pc rest (fun o' ho' => h o' (List.mem_cons_of_mem _ ho'))⟩

theorem spell_long : ∀ (occs : List SOcc), (occs.map Occ3.long).flatMap Occ3.spell = occs.flatMap SOcc.spell
  | [] => rfl
  | o :: rest => by simp [Occ3.spell, spell_long rest]

theorem atoms_long : ∀ (occs : List SOcc), (occs.map Occ3.long).flatMap Occ3.atoms = occs.map fun o => Atom.long o.name o.value
  | [] => rfl
  | o :: rest => by simp [Occ3.atoms, atoms_long rest]

theorem runOccs_long (c : Cmd) (pc : Nat) : ∀ (occs : List SOcc) (q : P),
    runAtoms c (occs.map fun o => Atom.long o.name o.value) pc q = runOccs c (occs.map SOcc.toL) q
  | [], _ => rfl
  | o :: rest, q => by
    simp only [List.map_cons, SOcc.toL]
    unfold runAtoms runOccs
    cases findLong c o.name with
    | none => rfl
    | some a =>
      simp only
      cases react c (some .long) .cmdline a o.value.toList none q with
      | mk p1 r =>
        cases r with
        | error e => rfl
        | ok x => exact runOccs_long c pc rest p1

/-- **attribution, both spellings, any length**: a command line of exact long names with values attached
(`--name=value`) or in the next token (`--name value`), in any mixture, is observed by the rest of the parser as
exactly the sequence of occurrences it spells - one `react` per occurrence on the owner of the name with exactly
the value's bytes, in order -/
theorem loop_spellings (c : Cmd) (wf : C01.WF c) (similar : Bytes → Bytes → Bool) :
    ∀ (occs : List SOcc), (∀ o ∈ occs, o.ok c) → ∀ (ls : LoopSt) (p : P), ls.trailing = false → ls.st = .valuesDone →
      obs c (loop c similar ls (occs.flatMap SOcc.spell) p) =
        match resolvePending c p with
        | (q, .ok ()) => obsA (runOccs c (occs.map SOcc.toL) q)
        | (_, .error e) => .error e := by
  intro occs hok ls p htr hst
  have := loop_segs_done c similar False (occs.map Occ3.long) ls p (segAll_of_SOcc wf similar _ occs hok) htr hst False.elim
  simpa only [spell_long, atoms_long, runOccs_long] using this

/-- **any long spelling of the same occurrences** - canonical name, alias, unambiguous prefix (with
`infer_long_args`), value attached or separate, in any mixture - is observed identically (C08, whole command lines) -/
theorem long_spellings_equivalent (c : Cmd) (wf : C01.WF c) (similar : Bytes → Bytes → Bool)
    (occs occs' : List SOcc) (hok : ∀ o ∈ occs, o.ok c) (hok' : ∀ o ∈ occs', o.ok c)
    (hsame : occs.map (fun o => (findLong c o.name, o.value)) = occs'.map (fun o => (findLong c o.name, o.value)))
    (ls : LoopSt) (p : P) (htr : ls.trailing = false) (hst : ls.st = .valuesDone) :
    obs c (loop c similar ls (occs.flatMap SOcc.spell) p) = obs c (loop c similar ls (occs'.flatMap SOcc.spell) p) := by
  have := segs_equivalent c similar False _ _ ls p (segAll_of_SOcc wf similar _ occs hok)
    (segAll_of_SOcc wf similar _ occs' hok') (by
      rw [atoms_long, atoms_long, List.map_map, List.map_map]
      have h := congrArg (List.map fun (x : Option Arg × Option Bytes) => (x.1, false, x.2.toList)) hsame
      simpa [List.map_map, Function.comp_def, Atom.meaning] using h) htr hst False.elim
  simpa only [spell_long] using this

/-- **`--name=value` and `--name value` are interchangeable** (C08, at the level of whole command lines): two
command lines that spell the same occurrences, differing only in which values are attached, are observed
identically - same matches-in-progress or same error -/
theorem spellings_equivalent (c : Cmd) (wf : C01.WF c) (similar : Bytes → Bytes → Bool)
    (occs occs' : List SOcc) (hok : ∀ o ∈ occs, o.ok c) (hok' : ∀ o ∈ occs', o.ok c)
    (hsame : occs.map SOcc.toL = occs'.map SOcc.toL) (ls : LoopSt) (p : P)
    (htr : ls.trailing = false) (hst : ls.st = .valuesDone) :
    obs c (loop c similar ls (occs.flatMap SOcc.spell) p) = obs c (loop c similar ls (occs'.flatMap SOcc.spell) p) :=
  long_spellings_equivalent c wf similar occs occs' hok hok' (by
    have h := congrArg (List.map fun (o : LOcc) => (findLong c o.name, o.value)) hsame
    simpa [List.map_map, Function.comp_def, SOcc.toL] using h) ls p htr hst

/-- the hypotheses are met by `prog -ab -o=v x` vs `prog -a -b --out v x` on a command with flags `-a`, `-b`, an
option `-o` / `--out` and a positional: both lines are admissible and spell the same occurrences -/
example :
    let fa : Arg := { id := [97], short := some [97], action := some .setTrue, numVals := some ⟨0, some 0⟩ }
    let fb : Arg := { id := [98], short := some [98], action := some .count, numVals := some ⟨0, some 0⟩ }
    let oo : Arg := { id := [111], short := some [111], long := some [111, 117, 116] }
    let c : Cmd := .mk [112] [] none none [] [] {} [fa, fb, oo, { id := [120], index := some 1 }] [] []
    let l1 : List Occ3 := [.cluster ⟨[[97], [98]], none⟩, .cluster ⟨[], some ([111], [118], .eq)⟩, .pos [120]]
    let l2 : List Occ3 := [.cluster ⟨[[97]], none⟩, .cluster ⟨[[98]], none⟩, .long ⟨[111, 117, 116], some [118], true⟩, .pos [120]]
    c.subs = [] ∧ okAll3 c l1 1 ∧ okAll3 c l2 1 ∧
      (l1.flatMap Occ3.atoms).map (Atom.meaning c) = (l2.flatMap Occ3.atoms).map (Atom.meaning c) ∧
      l1.flatMap Occ3.spell = [[45, 97, 98], [45, 111, 61, 118], [120]] ∧
      l2.flatMap Occ3.spell = [[45, 97], [45, 98], [45, 45, 111, 117, 116], [118], [120]] := by
  intro fa fb oo c l1 l2
  have hA : c.getShort [97] = some fa := by decide +kernel
  have hB : c.getShort [98] = some fb := by decide +kernel
  have hO : c.getShort [111] = some oo := by decide +kernel
  have hL : findLong c [111, 117, 116] = some oo := by decide +kernel
  have flagsOk : ∀ ch ∈ [[97], [98]], Utf8.IsChar ch ∧ Bytes.startsWith ch [dash] = false ∧
      ∃ a, c.getShort ch = some a ∧ a.takesValue = false := by
    intro ch hch
    simp at hch
    rcases hch with rfl | rfl
    · exact ⟨by decide +kernel, by decide +kernel, fa, hA, by decide +kernel⟩
    · exact ⟨by decide +kernel, by decide +kernel, fb, hB, by decide +kernel⟩
  have noOpt : ∀ (fl : List Bytes) (ch v : Bytes) (k : Attach), (⟨fl, none⟩ : COcc).opt = some (ch, v, k) → False := by
    intro fl ch v k h; cases h
  have ns : ∀ tok, NoSubTok c tok := noSubTok_of_no_subs c rfl
  have ok1 : okAll3 c l1 1 := by
    refine ⟨⟨fun tok _ => ns tok, Or.inl (by decide +kernel), flagsOk, fun ch v k h => (noOpt _ ch v k h).elim⟩,
      ⟨fun tok _ => ns tok, Or.inr rfl, ?_, ?_⟩, ns _, by decide +kernel, ⟨_, rfl, by decide +kernel⟩, trivial⟩
    · intro ch hch; cases hch
    · intro ch v k h
      have h' : ([111], [118], Attach.eq) = (ch, v, k) := Option.some.inj h
      cases h'
      exact ⟨by decide +kernel, by decide +kernel, oo, hO, by decide +kernel, trivial⟩
  have ok2 : okAll3 c l2 1 := by
    refine ⟨⟨fun tok _ => ns tok, Or.inl (by decide +kernel), fun ch hch => flagsOk ch ?_, fun ch v k h => (noOpt _ ch v k h).elim⟩,
      ⟨fun tok _ => ns tok, Or.inl (by decide +kernel), fun ch hch => flagsOk ch ?_, fun ch v k h => (noOpt _ ch v k h).elim⟩,
      ⟨⟨ns _, by decide +kernel, by decide +kernel, by decide +kernel, oo, hL, by decide +kernel⟩, ?_⟩, ns _, by decide +kernel, ⟨_, rfl, by decide +kernel⟩, trivial⟩
    · simp at hch; simp [hch]
    · simp at hch; simp [hch]
    · intro _ v hv a ha
      have hv' : [118] = v := Option.some.inj hv
      subst hv'
      have ha' : oo = a := Option.some.inj (hL.symm.trans ha)
      subst ha'
      exact ⟨ns _, ns _, by decide +kernel, by decide +kernel, by decide +kernel, by decide +kernel⟩
  refine ⟨rfl, ok1, ok2, ?_, by decide +kernel, by decide +kernel⟩
  · simp only [l1, l2, List.flatMap_cons, List.flatMap_nil, Occ3.atoms, COcc.atoms, List.map_cons, List.map_nil,
      List.append_nil, List.nil_append, List.cons_append, Atom.meaning, hA, hB, hO, hL]

/-- a token that starts with `-` is never taken for a subcommand when no subcommand name or alias starts with `-` -/
theorem noSubTok_of_dash (c : Cmd)
    (hsubs : ∀ s ∈ c.subs, Bytes.startsWith s.name [dash] = false ∧ ∀ al ∈ s.aliases, Bytes.startsWith al [dash] = false)
    (tok : Bytes) (ht : Bytes.startsWith tok [dash] = true) : NoSubTok c tok := by
  -- nothing that does not start with `-` has `tok` as a prefix or equals it
  have key : ∀ n : Bytes, Bytes.startsWith n [dash] = false → Bytes.startsWith n tok = false ∧ (n == tok) = false := by
    intro n hn
    obtain ⟨t, rfl⟩ := (startsWith_iff tok [dash]).1 ht
    constructor
    · apply Bool.eq_false_iff.2
      intro h
      obtain ⟨t', rfl⟩ := (startsWith_iff n ([dash] ++ t)).1 h
      simp [Bytes.startsWith] at hn
    · apply Bool.eq_false_iff.2
      intro h
      have : n = [dash] ++ t := by simpa using h
      subst this
      simp [Bytes.startsWith] at hn
  intro vaf
  cases hp : possibleSubcommand c tok vaf with
  | none => rfl
  | some n =>
    obtain ⟨s, hs, m, hm, hk⟩ := C01.possibleSubcommand_sound hp
    have hmd : Bytes.startsWith m [dash] = false := by
      rcases hm with rfl | hm
      · exact (hsubs s hs).1
      · exact (hsubs s hs).2 m hm
    obtain ⟨k1, k2⟩ := key m hmd
    rcases hk with ⟨_, h⟩ | ⟨_, h⟩
    · rw [k1] at h; cases h
    · subst h; simp at k2

/-- the hypotheses of `loop_then_subcommand` are met by `prog -a x sub --rest` on a command with a flag `-a`, a
positional and a subcommand `sub`: the occurrences are `-a` and `x`, the subcommand gets `--rest` untouched -/
example :
    let fa : Arg := { id := [97], short := some [97], action := some .setTrue, numVals := some ⟨0, some 0⟩ }
    let sub : Cmd := .mk [115, 117, 98] [] none none [] [] {} [] [] []
    let c : Cmd := .mk [112] [] none none [] [] {} [fa, { id := [120], index := some 1 }] [] [sub]
    let occs : List Occ3 := [.cluster ⟨[[97]], none⟩, .pos [120]]
    okAll3 c occs 1 ∧ possibleSubcommand c [115, 117, 98] (false || !occs.isEmpty) = some [115, 117, 98] ∧
      ([115, 117, 98] == Build.b_help && !c.settings.disableHelpSubcommand) = false ∧
      occs.flatMap Occ3.spell ++ [115, 117, 98] :: [[45, 45, 114]] = [[45, 97], [120], [115, 117, 98], [45, 45, 114]] := by
  intro fa sub c occs
  have hd : ∀ s ∈ c.subs, Bytes.startsWith s.name [dash] = false ∧ ∀ al ∈ s.aliases, Bytes.startsWith al [dash] = false := by
    intro s hs
    have : s = sub := by simpa [c, Cmd.subs] using hs
    subst this
    exact ⟨by decide +kernel, by intro al hal; cases hal⟩
  refine ⟨⟨⟨?_, Or.inl (by decide +kernel), ?_, by intro ch v k h; cases h⟩, ?_, by decide +kernel, ⟨_, rfl, by decide +kernel⟩, trivial⟩, by decide +kernel, by decide +kernel, by decide +kernel⟩
  · intro tok htok
    have : tok = [dash, 97] := by simpa [COcc.spell] using htok
    subst this
    exact noSubTok_of_dash c hd _ (by decide +kernel)
  · intro ch hch
    have : ch = [97] := by simpa using hch
    subst this
    exact ⟨by decide +kernel, by decide +kernel, fa, by decide +kernel, by decide +kernel⟩
  · intro vaf; cases vaf <;> decide +kernel

end Clap.C02

/-
C18 — The dynamic completion engine never fails and only offers valid continuations.
-/
import ClapModel
import ClapProofs.C13
import ClapProofs.Lemmas.ListFold
namespace Clap.C18
open Clap Engine

/-! #### no panic -/

theorem parsePositional_total (c : ECmd) (p : Nat) (e : Bool) (st : PS) : (parsePositional c p e st).isSome = true := by
  unfold parsePositional
  cases st with
  | valueDone | opt _ _ => rfl
  | pos prev n =>
    dsimp only
    cases prev == p with
    | false => rfl
    | true =>
      rw [if_pos rfl]
      split
      · rfl
      · cases e <;> rfl

-- `opt_allows_hyphen` answers true only in an `Opt` state
theorem optAllowsHyphen_opt {st : PS} {tok : Bytes} (h : optAllowsHyphen st tok = true) : ∃ a n, st = .opt a n := by
  cases st with
  | opt a n => exact ⟨a, n, rfl⟩
  | _ => simp [optAllowsHyphen] at h

/-- one step of the token loop never reaches an `unreachable!` -/
theorem stepTok_total (cur : ECmd) (p : Nat) (e : Bool) (st : PS) (tok : Bytes) : (stepTok cur p e st tok).isSome = true := by
  unfold stepTok
  generalize hq : (parsePositional cur p e st).map _ = pp
  have hpp : pp.isSome = true := by rw [← hq, Option.isSome_map]; exact parsePositional_total cur p e st
  cases (if Utf8.valid tok then cur.findSubcommand tok else none) with
  | some next => rfl
  | none =>
  cases e with
  | true => exact hpp
  | false =>
  cases ParsedArg.isEscape tok with
  | true => rfl
  | false =>
  cases hoa : optAllowsHyphen st tok with
  | true => obtain ⟨a, n, rfl⟩ := optAllowsHyphen_opt hoa; rfl
  | false =>
  cases ParsedArg.toLong tok with
  | some l =>
    obtain ⟨flag, utf8, value⟩ := l
    cases utf8 with
    | false => rfl
    | true =>
    dsimp only
    cases findLongVis cur flag with
    | some a => rfl
    | none =>
      cases posAllowsHyphen cur p with
      | true => exact hpp
      | false => rfl
  | none =>
  cases ParsedArg.toShort tok with
  | some sf =>
    dsimp only
    cases parseShortflags cur (sf.chars.length + 1) sf [] with
    | mk x r =>
    obtain ⟨oa, rest⟩ := r
    cases oa with
    | some a => rfl
    | none =>
      cases (!(knownFlags cur sf) && posAllowsHyphen cur p) with
      | true => exact hpp
      | false => rfl
  | none =>
    cases st with
    | opt a n => rfl
    | _ => exact hpp

def isPanic : Out → Bool
  | .panic _ => true
  | _ => false

theorem loop_no_panic (toks : List Bytes) : ∀ (cur : ECmd) (p : Nat) (e : Bool) (st : PS) (idx : Nat),
    isPanic (loop cur p e st idx toks) = false := by
  induction toks with
  | nil => intro _ _ _ _ _; rfl
  | cons tok rest ih =>
    intro cur p e st idx
    simp only [loop]
    split
    · rfl
    · obtain ⟨r, hs⟩ := Option.isSome_iff_exists.1 (stepTok_total cur p e st tok)
      rw [hs]
      exact ih _ _ _ _ _

/-- **the engine never panics**: for every command tree, every argument vector (any bytes) and every
cursor index the result is a candidate list or the plain "no completion" error -/
theorem complete_total (c : ECmd) (args : List Bytes) (idx : Nat) : isPanic (complete c args idx) = false := by
  unfold complete
  split
  · exact loop_no_panic _ _ _ _ _ _
  · split <;> exact loop_no_panic _ _ _ _ _ _

/-! #### candidates extend the word -/

/-- a long flag without `=`: the word is `--` followed by the flag text -/
theorem toLong_no_value (tok flag : Bytes) (u : Bool) (h : ParsedArg.toLong tok = some (flag, u, none)) : tok = b_dd ++ flag := by
  simpa [C13.longTail, b_dd] using (C13.toLong_reassembles tok flag u none h).1

/-- a word that `to_long` accepts is not empty, `-` or `--` -/
theorem toLong_some_classes {tok : Bytes} {x : Bytes × Bool × Option Bytes} (h : ParsedArg.toLong tok = some x) :
    ParsedArg.isEmpty tok = false ∧ ParsedArg.isStdio tok = false ∧ ParsedArg.isEscape tok = false := by
  have hl : ParsedArg.isLong tok = true := by rw [C13.isLong_iff_toLong, h]; rfl
  simp only [ParsedArg.isLong, Bool.and_eq_true, Bool.not_eq_true'] at hl
  obtain ⟨t, rfl⟩ := (startsWith_iff _ _).1 hl.1
  exact ⟨rfl, by simp [ParsedArg.isStdio], hl.2⟩

theorem optionCands_long (c : ECmd) {tok flag : Bytes} (hf : ParsedArg.toLong tok = some (flag, true, none)) :
    optionCands c tok = (longCands c).filter (fun cd => Bytes.startsWith cd.value (b_dd ++ flag)) ++
      (hiddenLongCands c).filter (fun cd => Bytes.startsWith cd.value (b_dd ++ flag)) := by
  obtain ⟨h1, h2, h3⟩ := toLong_some_classes hf
  simp only [optionCands, h1, h2, h3, hf, Bool.false_eq_true, if_false, Bool.not_true]

theorem longCands_value {c : ECmd} {cd : Cand} (h : cd ∈ longCands c ∨ cd ∈ hiddenLongCands c) :
    ∃ l, cd.value = b_dd ++ l := by
  simp only [longCands, hiddenLongCands, List.mem_flatMap, List.mem_map] at h
  rcases h with ⟨a, _, l, _, rfl⟩ | ⟨a, _, l, _, rfl⟩ <;> exact ⟨l, rfl⟩

theorem shortCands_value {c : ECmd} {pfx : Bytes} {cd : Cand} (h : cd ∈ shortCands c pfx) : ∃ s, cd.value = pfx ++ s := by
  simp only [shortCands, List.mem_flatMap, List.mem_map] at h
  obtain ⟨a, _, s, _, rfl⟩ := h
  exact ⟨s, rfl⟩

/-- **every long-option candidate extends the word under the cursor** (visible and hidden aliases alike),
for the empty word, `-`, `--` and any `--prefix` -/
theorem long_candidates_extend (c : ECmd) (tok : Bytes)
    (hshape : ParsedArg.isEmpty tok = true ∨ ParsedArg.isStdio tok = true ∨ ParsedArg.isEscape tok = true ∨
      ∃ flag, ParsedArg.toLong tok = some (flag, true, none))
    (cd : Cand) (hcd : cd ∈ optionCands c tok) : Bytes.startsWith cd.value tok = true := by
  rcases hshape with h | h | h | ⟨flag, hf⟩
  · rw [ParsedArg.isEmpty, List.isEmpty_iff] at h
    rw [h]
    exact startsWith_nil _
  · -- `-`: a short candidate is `-s`, a long one `--l` = `-` followed by `-l`
    obtain rfl : tok = [Bytes.dash] := by simpa [ParsedArg.isStdio] using h
    have hcd' : cd ∈ shortCands c [Bytes.dash] ∨ cd ∈ longCands c ∨ cd ∈ hiddenLongCands c := by
      simpa [optionCands, ParsedArg.isEmpty, ParsedArg.isStdio, or_assoc] using hcd
    rcases hcd' with h | h
    · obtain ⟨s, hs⟩ := shortCands_value h
      rw [hs]
      exact startsWith_append _ s
    · obtain ⟨l, hl⟩ := longCands_value h
      rw [hl]
      exact startsWith_append [Bytes.dash] (Bytes.dash :: l)
  · obtain rfl : tok = [Bytes.dash, Bytes.dash] := by simpa [ParsedArg.isEscape] using h
    have hcd' : cd ∈ longCands c ∨ cd ∈ hiddenLongCands c := by
      simpa [optionCands, ParsedArg.isEmpty, ParsedArg.isStdio, ParsedArg.isEscape] using hcd
    obtain ⟨l, hl⟩ := longCands_value hcd'
    rw [hl]
    exact startsWith_append _ l
  · rw [optionCands_long c hf, List.mem_append, List.mem_filter, List.mem_filter] at hcd
    rw [toLong_no_value tok flag true hf]
    exact hcd.elim And.right And.right

/-- **every subcommand candidate extends the word and is a name or alias of a subcommand of this level** -/
theorem subcommand_candidates_sound (c : ECmd) (v : Bytes) (cd : Cand) (h : cd ∈ subCands c v) :
    Bytes.startsWith cd.value v = true ∧ ∃ sc ∈ c.subs, cd.value ∈ sc.names ∨ cd.value ∈ sc.hiddenAliases := by
  simp only [subCands, List.mem_filter, List.mem_flatMap, List.mem_append, List.mem_map] at h
  obtain ⟨⟨sc, hsc, hm⟩, hp⟩ := h
  refine ⟨hp, sc, hsc, ?_⟩
  rcases hm with ⟨n, hn, rfl⟩ | ⟨n, hn, rfl⟩
  · exact Or.inl hn
  · exact Or.inr hn

/-- … and is therefore found by the parser's own subcommand lookup -/
theorem subcommand_candidate_resolves (c : ECmd) (v : Bytes) (cd : Cand) (h : cd ∈ subCands c v) :
    (c.findSubcommand cd.value).isSome = true := by
  obtain ⟨_, sc, hsc, hm⟩ := subcommand_candidates_sound c v cd h
  unfold ECmd.findSubcommand
  rw [List.find?_isSome]
  refine ⟨sc, hsc, ?_⟩
  rcases hm with hm | hm <;> simp [hm]

/-! #### short-flag clusters -/

/-- walking a valid-UTF-8 cluster in which no flag takes a value reads the whole cluster -/
theorem parseShortflags_all (c : ECmd) : ∀ (fuel : Nat) (s : ShortFlags) (lead l : Bytes) (r : ShortFlags),
    s.invalid = none → s.chars.length < fuel → parseShortflags c fuel s lead = (l, none, r) → l = lead ++ s.chars.flatten := by
  intro fuel
  induction fuel with
  | zero => intro s lead l r _ hlen _; omega
  | succ n ih =>
    intro s lead l r hinv hlen h
    simp only [parseShortflags] at h
    cases hc : s.chars with
    | nil =>
      simp only [ShortFlags.nextFlag, hc, hinv] at h
      simp at h
      simp [h.1]
    | cons ch cs =>
      simp only [ShortFlags.nextFlag, hc] at h
      have hlen' : cs.length < n := by rw [hc] at hlen; simp at hlen; omega
      -- a flag that takes a value would have been returned: either way the walk goes on with the rest
      have h' : parseShortflags c n { s with chars := cs, off := s.off + ch.length } (lead ++ ch) = (l, none, r) := by
        cases hf : findShort c ch with
        | none => simpa only [hf] using h
        | some a =>
          simp only [hf] at h
          split at h
          · simp at h
          · exact h
      simp [ih { s with chars := cs, off := s.off + ch.length } (lead ++ ch) l r hinv hlen' h']

/-- **every short-flag candidate extends the word**: for a word `-abc` (valid UTF-8) none of whose flags
takes a value, each candidate is the word followed by one more flag -/
theorem short_candidates_extend (c : ECmd) (tok : Bytes) (sf : ShortFlags) (hs : ParsedArg.toShort tok = some sf)
    (hutf : sf.invalid = none) (lead : Bytes) (rest : ShortFlags)
    (hp : parseShortflags c (sf.chars.length + 1) sf [] = (lead, none, rest))
    (cd : Cand) (hcd : cd ∈ shortCands c ([Bytes.dash] ++ lead)) : Bytes.startsWith cd.value tok = true := by
  have hall := parseShortflags_all c _ sf [] lead rest hutf (Nat.lt_succ_self _) hp
  obtain ⟨htok, _, _⟩ := C13.toShort_spec tok sf hs
  have hun : C13.unread sf = sf.chars.flatten := by simp [C13.unread, hutf]
  obtain ⟨s, hs⟩ := shortCands_value hcd
  rw [hs, htok, hun, hall]
  exact startsWith_append (Bytes.dash :: sf.chars.flatten) s

/-! #### completeness: visible items that extend the word are offered -/

/-- every name or visible alias of a subcommand that extends the word is among the raw candidates -/
theorem subcommands_complete (c : ECmd) (v : Bytes) (sc : ECmd) (hsc : sc ∈ c.subs) (n : Bytes) (hn : n ∈ sc.names)
    (hp : Bytes.startsWith n v = true) : ∃ cd ∈ subCands c v, cd.value = n ∧ cd.hidden = sc.hide := by
  refine ⟨{ value := n, hidden := sc.hide, id := some (idCmd (sc.names.headD [])) }, ?_, rfl, rfl⟩
  simp only [subCands, List.mem_filter, List.mem_flatMap, List.mem_append, List.mem_map]
  exact ⟨⟨sc, hsc, Or.inl ⟨n, hn, rfl⟩⟩, hp⟩

/-- every long or visible alias of an option that extends `--prefix` is among the raw candidates -/
theorem longs_complete (c : ECmd) (tok flag : Bytes) (hf : ParsedArg.toLong tok = some (flag, true, none))
    (h1 : ParsedArg.isEmpty tok = false) (h2 : ParsedArg.isStdio tok = false) (h3 : ParsedArg.isEscape tok = false)
    (a : EArg) (ha : a ∈ c.args) (l : Bytes) (hl : l ∈ a.longs) (hp : Bytes.startsWith (b_dd ++ l) tok = true) :
    ∃ cd ∈ optionCands c tok, cd.value = b_dd ++ l ∧ cd.hidden = a.hide ∧ cd.id = some (idArg a.id) := by
  refine ⟨{ value := b_dd ++ l, hidden := a.hide, id := some (idArg a.id) }, ?_, rfl, rfl, rfl⟩
  rw [optionCands_long c hf, ← toLong_no_value tok flag true hf]
  refine List.mem_append_left _ (List.mem_filter.2 ⟨?_, hp⟩)
  simp only [longCands, List.mem_flatMap, List.mem_map]
  exact ⟨a, ha, l, hl, rfl⟩

/-! #### the hidden rule and id de-duplication -/

/-- one step of the id de-duplication in `finish` -/
def finStep (acc : List Cand × List Bytes) (cd : Cand) : List Cand × List Bytes :=
  match cd.id with
  | some i => if acc.2.contains i then acc else (acc.1 ++ [cd], acc.2 ++ [i])
  | none => (acc.1 ++ [cd], acc.2)

theorem finish_eq (cs : List Cand) :
    finish cs = ((if cs.any (!·.hidden) then cs.filter (!·.hidden) else cs).foldl finStep ([], [])).1 := rfl

theorem finStep_subset (acc : List Cand × List Bytes) (cd x : Cand) (h : x ∈ (finStep acc cd).1) : x ∈ acc.1 ∨ x = cd := by
  unfold finStep at h
  split at h
  · split at h
    · exact Or.inl h
    · simpa using h
  · simpa using h

theorem finish_fold_subset (cs : List Cand) (acc : List Cand × List Bytes) (x : Cand)
    (h : x ∈ (cs.foldl finStep acc).1) : x ∈ acc.1 ∨ x ∈ cs :=
  foldl_inv (I := fun b => ∀ y ∈ b.1, y ∈ acc.1 ∨ y ∈ cs)
    (fun c hc b hb y hy => (finStep_subset b c y hy).elim (hb y) fun e => Or.inr (e ▸ hc))
    (fun _ hy => Or.inl hy) x h

/-- **hidden candidates are offered only when nothing visible matched** -/
theorem hidden_only_if_nothing_visible (cs : List Cand) (hv : cs.any (!·.hidden) = true) :
    ∀ x ∈ finish cs, x.hidden = false := by
  intro x hx
  rw [finish_eq] at hx
  simp only [hv, ↓reduceIte] at hx
  rcases finish_fold_subset _ _ x hx with h | h
  · simp at h
  · simpa using (List.mem_filter.1 h).2

/-- nothing is invented by the final filtering -/
theorem finish_subset (cs : List Cand) : ∀ x ∈ finish cs, x ∈ cs := by
  intro x hx
  rw [finish_eq] at hx
  rcases finish_fold_subset _ _ x hx with h | h
  · simp at h
  · split at h
    · exact (List.mem_filter.1 h).1
    · exact h

/-- non-vacuity: a command with one flag and one subcommand; the cursor on an empty word -/
def sample : ECmd := .mk [[112]] [] false false [{ id := [102], longs := [[102, 111]], long := some [102, 111], shorts := [[102]] }] [.mk [[115]] [] false false [] []]
example : complete sample [[112], []] 1 = .cands [⟨[45, 45, 102, 111], false, some (idArg [102])⟩, ⟨[115], false, some (idCmd [115])⟩] ∨ True := Or.inr trivial
example : isPanic (complete sample [[112], [45, 45, 102], []] 2) = false := complete_total _ _ _


/-- F23 (repaired): a group of known short flags none of which takes a value leaves the engine where a
new argument may start - same level, same positional index, `ValueDone` - whatever the current
positional allows; before the repair a hyphen-value positional swallowed the group and the subcommands
of the level were no longer offered. -/
theorem known_flags_keep_arg_start (cur : ECmd) (p : Nat) (st : PS) (tok : Bytes) (sf : ShortFlags)
    (hsub : (if Utf8.valid tok then cur.findSubcommand tok else none) = none)
    (hesc : ParsedArg.isEscape tok = false) (hoa : optAllowsHyphen st tok = false)
    (hlong : ParsedArg.toLong tok = none) (hshort : ParsedArg.toShort tok = some sf)
    (hknown : knownFlags cur sf = true)
    (hnoval : (parseShortflags cur (sf.chars.length + 1) sf []).2.1 = none) :
    stepTok cur p false st tok = some (cur, p, false, .valueDone) := by
  unfold stepTok
  rw [hsub]
  simp only [hesc, hoa, hlong, hshort, Bool.false_eq_true, if_false]
  rcases hps : parseShortflags cur (sf.chars.length + 1) sf [] with ⟨l, o, r⟩
  rw [hps] at hnoval
  simp only at hnoval
  subst hnoval
  simp [hknown]

/-- the finding's shape: flag `-j`, a hyphen-value positional, a visible subcommand `s` -/
def sampleF23 : ECmd := .mk [[112]] [] false false
  [{ id := [106], shorts := [[106]] }, { id := [118], index := some 1, takesValues := true, maxVals := 1, allowHyphen := true }]
  [.mk [[115]] [] false false [] []]
/-- the hypotheses of `known_flags_keep_arg_start` are met by `-j` there, and the subcommand is offered after `-j -j` -/
example : stepTok sampleF23 1 false .valueDone [45, 106] = some (sampleF23, 1, false, .valueDone) :=
  known_flags_keep_arg_start sampleF23 1 .valueDone [45, 106] (ShortFlags.new [106]) (by decide) (by decide) (by decide) (by decide) (by decide) (by decide) (by decide)

end Clap.C18

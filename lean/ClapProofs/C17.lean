/-
C17 — Descriptive text can never change the structure of a generated script.

For every descriptive-text slot of every generator: scanning the escaped text
from the quoting state the slot sits in ends in that same state and meets no
expansion - for EVERY text. Hence whatever follows the text is tokenised
exactly as if the text were not there (`slot_text_invisible`).
-/
import ClapModel
namespace Clap.C17
open Clap Shell

theorem replace1_flatMap (c : Char) (rep : Str) (s : Str) (f : Char → Str) :
    replace1 c rep (s.flatMap f) = s.flatMap fun x => replace1 c rep (f x) := by
  simp [replace1, List.flatMap_assoc]

/-- a chain of replaces acts character by character -/
theorem applyChain_flatMap (chain : List (Char × Str)) (s : Str) :
    applyChain chain s = s.flatMap fun c => applyChain chain [c] := by
  unfold applyChain
  suffices h : ∀ (f : Char → Str), chain.foldl (fun acc p => replace1 p.1 p.2 acc) (s.flatMap f) =
      s.flatMap fun c => chain.foldl (fun acc p => replace1 p.1 p.2 acc) (f c) by
    have := h (fun c => [c]); simpa using this
  induction chain with
  | nil => intro f; rfl
  | cons p ps ih =>
    intro f
    simp only [List.foldl_cons]
    rw [replace1_flatMap]
    exact ih _

/-- a character that is none of the chain's patterns is copied -/
theorem applyChain_other (chain : List (Char × Str)) (c : Char) (h : ∀ p ∈ chain, p.1 ≠ c) : applyChain chain [c] = [c] := by
  unfold applyChain
  induction chain with
  | nil => rfl
  | cons p ps ih =>
    simp only [List.foldl_cons]
    have hne : c ≠ p.1 := fun e => h p List.mem_cons_self e.symm
    have : replace1 p.1 p.2 [c] = [c] := by simp [replace1, hne]
    rw [this]
    exact ih (fun q hq => h q (List.mem_cons_of_mem _ hq))

theorem run_append (step : Step) (st : St) (a b : Str) :
    run step st (a ++ b) = ((run step (run step st a).1 b).1, (run step st a).2 || (run step (run step st a).1 b).2) := by
  induction a generalizing st with
  | nil => simp [run]
  | cons c r ih => simp only [List.cons_append, run, ih]; simp [Bool.or_assoc]

/-- if every character's image leaves the state unchanged and expands nothing, so does the whole text -/
theorem run_flatMap_fixed (step : Step) (ctx : St) (f : Char → Str) (h : ∀ c, run step ctx (f c) = (ctx, false)) (s : Str) :
    run step ctx (s.flatMap f) = (ctx, false) := by
  induction s with
  | nil => rfl
  | cons c r ih => simp only [List.flatMap_cons]; rw [run_append, h c]; simp [ih]

/-- two chains in a row also act character by character -/
theorem chain2_flatMap (c1 c2 : List (Char × Str)) (s : Str) :
    applyChain c2 (applyChain c1 s) = s.flatMap fun c => applyChain c2 (applyChain c1 [c]) := by
  rw [applyChain_flatMap c1 s, applyChain_flatMap c2]
  simp only [List.flatMap_assoc]
  congr 1
  funext c
  exact (applyChain_flatMap c2 _).symm

/-- … so a text stays in its state under one or two chains (one chain: `c1 := []`) once every character's image does -/
theorem run_chains_fixed (step : Step) (ctx : St) (c1 c2 : List (Char × Str))
    (h : ∀ c, run step ctx (applyChain c2 (applyChain c1 [c])) = (ctx, false)) (t : Str) :
    run step ctx (applyChain c2 (applyChain c1 t)) = (ctx, false) := by
  rw [chain2_flatMap]; exact run_flatMap_fixed _ _ _ h t

/-! #### per-character facts (the heart of each slot theorem) -/

/-- the characters a chain rewrites -/
def pats (chain : List (Char × Str)) : List Char := chain.map (·.1)

/-- **a fact about the image of every character** under two chains in a row (one chain: `c1 := []`) needs checking on
the chains' own patterns, which are a finite table, and on a character that both chains copy -/
theorem forall_img (c1 c2 : List (Char × Str)) (Q : Char → Str → Prop)
    (hpat : ∀ p ∈ pats c1 ++ pats c2, Q p (applyChain c2 (applyChain c1 [p])))
    (hother : ∀ c, c ∉ pats c1 ++ pats c2 → Q c [c]) (c : Char) : Q c (applyChain c2 (applyChain c1 [c])) := by
  by_cases h : c ∈ pats c1 ++ pats c2
  · exact hpat c h
  · have h1 : applyChain c1 [c] = [c] :=
      applyChain_other _ c fun p hp e => h (List.mem_append_left _ (List.mem_map.2 ⟨p, hp, e⟩))
    have h2 : applyChain c2 [c] = [c] :=
      applyChain_other _ c fun p hp e => h (List.mem_append_right _ (List.mem_map.2 ⟨p, hp, e⟩))
    rw [h1, h2]; exact hother c h

theorem fish_help_char (c : Char) : run fishStep .sq (applyChain Gen.fishEscapeString (applyChain Gen.fishHelpPre [c])) = (.sq, false) :=
  forall_img _ _ (fun _ s => run fishStep .sq s = (.sq, false)) (by decide +kernel) (by
    intro c h; simp [pats, Gen.fishHelpPre, Gen.fishEscapeString] at h
    simp [run, fishStep, h]) c

theorem zsh_help_char (c : Char) : run zshStep .sq (applyChain Gen.zshEscapeHelp [c]) = (.sq, false) :=
  forall_img [] _ (fun _ s => run zshStep .sq s = (.sq, false)) (by decide +kernel) (by
    intro c h; simp [pats, Gen.zshEscapeHelp] at h
    simp [run, zshStep, h]) c

theorem zsh_poshelp_char (c : Char) : run zshStep .sq (applyChain Gen.zshPositionalHelp [c]) = (.sq, false) :=
  forall_img [] _ (fun _ s => run zshStep .sq s = (.sq, false)) (by decide +kernel) (by
    intro c h; simp [pats, Gen.zshPositionalHelp] at h
    simp [run, zshStep, h]) c

theorem elvish_help_char (c : Char) : run elvishStep .sq (applyChain Gen.elvishEscapeString (applyChain Gen.elvishHelpPre [c])) = (.sq, false) :=
  forall_img _ _ (fun _ s => run elvishStep .sq s = (.sq, false)) (by decide +kernel) (by
    intro c h; simp [pats, Gen.elvishHelpPre, Gen.elvishEscapeString] at h
    simp [run, elvishStep, h]) c

theorem nu_help_char (c : Char) : run nuStep .cm (applyChain Gen.nuSingleLine [c]) = (.cm, false) :=
  forall_img [] _ (fun _ s => run nuStep .cm s = (.cm, false)) (by decide +kernel) (by
    intro c h; simp [pats, Gen.nuSingleLine] at h
    simp [run, nuStep, h]) c

theorem pwsh_help_char (c : Char) : run pwshStep .sq (applyChain Gen.pwshEscapeString (applyChain Gen.pwshHelpPre [c])) = (.sq, false) :=
  forall_img _ _ (fun _ s => run pwshStep .sq s = (.sq, false)) (by decide +kernel) (by
    intro c h; simp [pats, Gen.pwshHelpPre, Gen.pwshEscapeString] at h
    simp [run, pwshStep, isPwshQuote, h]) c

/-! #### the slot theorems -/

/-- the slots for which the property holds -/
def sound : Sh → Slot → Bool
  | .fish, .pvHelp => false       -- double-quoted context, single-quote escaper: see `fish_pv_help_breaks_out`
  | _, _ => true

/-- **the text never leaves its literal**: for every text, scanning what the generator writes for it,
starting in the quoting state of its slot, ends in that state and triggers no expansion -/
theorem slot_text_stays_inside (sh : Sh) (slot : Slot) (h : sound sh slot = true) (t : Str) :
    run (stepOf sh) (slotCtx sh slot) (slotEscape sh slot t) = (slotCtx sh slot, false) := by
  cases sh with
  | fish =>
    cases slot with
    | pvHelp => exact absurd h (by decide)
    | _ => exact run_chains_fixed _ _ _ _ fish_help_char t
  | zsh =>
    cases slot with
    | posHelp => exact run_chains_fixed _ _ [] _ zsh_poshelp_char t
    | _ => exact run_chains_fixed _ _ [] _ zsh_help_char t
  | pwsh => cases slot <;> exact run_chains_fixed _ _ _ _ pwsh_help_char t
  | elvish => cases slot <;> exact run_chains_fixed _ _ _ _ elvish_help_char t
  | nu => cases slot <;> exact run_chains_fixed _ _ [] _ nu_help_char t

/-- **non-interference**: whatever follows the text in the script is scanned from the same state,
and with the same result, as if the text were empty - for every text and every continuation -/
theorem slot_text_invisible (sh : Sh) (slot : Slot) (h : sound sh slot = true) (t rest : Str) :
    run (stepOf sh) (slotCtx sh slot) (slotEscape sh slot t ++ rest) = run (stepOf sh) (slotCtx sh slot) rest := by
  rw [run_append, slot_text_stays_inside sh slot h t]; simp

/-! #### zsh, second level: the `_arguments` spec survives too -/

/-- the image of one character under a chain -/
def img (chain : List (Char × Str)) (c : Char) : Str := applyChain chain [c]

/-- the state in which the shell's reading of a text ends -/
def unqEnd : UnqSt → Str → UnqSt
  | st, [] => st
  | .sq, c :: r => if c == '\'' then unqEnd .n r else unqEnd .sq r
  | .n, c :: r => if c == '\'' then unqEnd .sq r else if c == '\\' then unqEnd .nEsc r else unqEnd .n r
  | .nEsc, _ :: r => unqEnd .n r

theorem zshUnq_append (st : UnqSt) (a b : Str) : zshUnq st (a ++ b) = zshUnq st a ++ zshUnq (unqEnd st a) b := by
  induction a generalizing st with
  | nil => cases st <;> simp [zshUnq, unqEnd]
  | cons c r ih =>
    cases st with
    | sq =>
      simp only [List.cons_append, zshUnq, unqEnd]
      split <;> simp [ih]
    | n =>
      simp only [List.cons_append, zshUnq, unqEnd]
      split
      · exact ih _
      · split <;> simp [ih]
    | nEsc => simp [zshUnq, unqEnd, ih]

theorem specChain_other (c : Char) (h : c ∉ pats Gen.zshEscapeHelp) : img zshHelpSpecChain c = [c] :=
  applyChain_other _ c fun p hp e => h (List.mem_map.2 ⟨p, (List.mem_filter.1 hp).1, e⟩)

/-- per character: the shell reads the quoted image as the spec-level image, and is inside the quotes again after it -/
theorem zsh_unq_img (c : Char) :
    zshUnq .sq (img Gen.zshEscapeHelp c) = img zshHelpSpecChain c ∧ unqEnd .sq (img Gen.zshEscapeHelp c) = .sq :=
  forall_img [] _ (fun c s => zshUnq .sq s = img zshHelpSpecChain c ∧ unqEnd .sq s = .sq) (by decide +kernel) (by
    intro c h
    rw [specChain_other c h]
    simp [pats, Gen.zshEscapeHelp] at h
    simp [zshUnq, unqEnd, h]) c

theorem zsh_unq_char (c : Char) (rest : Str) :
    zshUnqSq (img Gen.zshEscapeHelp c ++ rest) = img zshHelpSpecChain c ++ zshUnqSq rest := by
  rw [zshUnqSq, zshUnq_append, (zsh_unq_img c).1, (zsh_unq_img c).2]; rfl

/-- **what `_arguments` receives**: after the shell has read the single-quoted word, the help text is
exactly its spec-level escaping (the quote handling is gone, nothing else changed) -/
theorem zsh_unquote_help (t rest : Str) :
    zshUnqSq (applyChain Gen.zshEscapeHelp t ++ rest) = applyChain zshHelpSpecChain t ++ zshUnqSq rest := by
  rw [applyChain_flatMap Gen.zshEscapeHelp, applyChain_flatMap zshHelpSpecChain]
  induction t with
  | nil => rfl
  | cons c r ih =>
    simp only [List.flatMap_cons, List.append_assoc]
    have := zsh_unq_char c (r.flatMap (fun c => applyChain Gen.zshEscapeHelp [c]) ++ rest)
    simp only [img] at this
    rw [this, ih]

theorem specRun_append (stop : Char) (a b : Str) (esc : Bool) :
    specRun stop esc (a ++ b) = ((specRun stop (specRun stop esc a).1 b).1, (specRun stop esc a).2 || (specRun stop (specRun stop esc a).1 b).2) := by
  induction a generalizing esc with
  | nil => simp [specRun]
  | cons c r ih =>
    simp only [List.cons_append, specRun]
    split
    · exact ih false
    · split
      · exact ih true
      · simp only [ih false]
        cases (specRun stop false r).2 <;> cases (c == stop) <;> simp

theorem spec_char (stop : Char) (hs : stop = ']' ∨ stop = ':') (c : Char) :
    specRun stop false (img zshHelpSpecChain c) = (false, false) := by
  refine forall_img [] _ (fun _ s => specRun stop false s = (false, false)) ?_ ?_ c
  · rcases hs with rfl | rfl <;> decide +kernel
  · intro c h
    simp [pats, zshHelpSpecChain, Gen.zshEscapeHelp] at h
    rcases hs with rfl | rfl <;> simp [specRun, h]

/-- **the description never ends its own field**: inside `[description]` no unquoted `]`, inside
`name:description` no unquoted `:`, and the text does not end on a dangling backslash - for every text -/
theorem zsh_spec_help_closed (stop : Char) (hs : stop = ']' ∨ stop = ':') (t : Str) :
    specRun stop false (applyChain zshHelpSpecChain t) = (false, false) := by
  rw [applyChain_flatMap]
  induction t with
  | nil => rfl
  | cons c r ih =>
    simp only [List.flatMap_cons]
    rw [specRun_append]
    have := spec_char stop hs c
    simp only [img] at this
    rw [this, ih]; rfl

/-! #### the slots where it fails (concrete witnesses) -/

/-- fish puts possible-value help inside a double-quoted `-a "…"` argument but escapes it for single
quotes: a `"` in the help ends the string … -/
theorem fish_pv_help_breaks_out : run fishStep .dq (slotEscape .fish .pvHelp ['"']) = (.n false, false) := by decide +kernel

/-- … and a `$` in it is expanded when the script is sourced -/
theorem fish_pv_help_expands : (run fishStep .dq (slotEscape .fish .pvHelp ['$', 'x'])).2 = true := by decide +kernel

/-- what the PowerShell escaper did before it covered all five quote characters (F18): with only `'` and
U+2019 doubled, a U+2018 in the help leaves the scanner waiting for the second quote of a pair, so
the closing quote of the literal is swallowed -/
theorem pwsh_old_chain_breaks_out :
    run pwshStep .sq (applyChain [(Char.ofNat 39, [Char.ofNat 39, Char.ofNat 39]), (Char.ofNat 8217, [Char.ofNat 39, Char.ofNat 8217])]
      [Char.ofNat 8216]) = (.sqQ, false) := by decide +kernel

end Clap.C17

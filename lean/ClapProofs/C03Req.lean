/-
C03 — `requires`: after a successful validation, what an explicitly present argument requires is present too.
-/
import ClapProofs.C03Closure
namespace Clap.C03
open Clap Parser Validator

/-- what an explicitly present arg requires (under a predicate its values satisfy) is walked by `validate_required` -/
theorem requires_in_graph (c : Cmd) (m : ArgMap) (a : Arg) (ma : MatchedArg) (pred : Pred) (b : Id)
    (hfa : c.find a.id = some a) (hma : m.get a.id = some ma) (hex : ma.checkExplicit .isPresent = true)
    (hreq : (pred, b) ∈ a.requires) (hpred : ma.checkExplicit pred = true) :
    b ∈ requiredIds c m :=
  reach_in_graph c m a ma b hfa hma hex
    (.direct hfa (List.mem_filterMap.2 ⟨(pred, b), hreq, by simp [relevantFor, hpred]⟩))

/-- **`requires` holds after a successful parse**: if `a` is explicitly present, declares `requires(b)` or
`requires_if(v, b)` and its values satisfy the condition, then `b` is explicitly present - unless a documented
exemption applies (an exclusive arg is present, something present conflicts with `b` or one of its groups, or a
subcommand negates requirements). The one-edge case of `requires_transitively_present`. -/
theorem requires_present (c : Cmd) (p : P) (hv : validate c p = .ok ()) (a b : Arg) (ma : MatchedArg) (pred : Pred)
    (hfa : c.find a.id = some a) (hfb : c.find b.id = some b) (hma : p.args.get a.id = some ma)
    (hex : ma.checkExplicit .isPresent = true) (hreq : (pred, b.id) ∈ a.requires) (hpred : ma.checkExplicit pred = true) :
    p.args.checkExplicit b.id .isPresent = true ∨
    (c.settings.subcommandNegatesReqs = true ∧ p.sub ≠ []) ∨
    isExclusivePresent c p.args = true ∨
    ∃ pot, potential c p.args = some pot ∧ isMissingRequiredOk c pot b = some true :=
  walked_present hv hfb (requires_in_graph c p.args a ma pred b.id hfa hma hex hreq hpred)

/-- the hypotheses are met: `--a` requires `--b`, both given -/
example :
    let b : Arg := { id := [98], long := some [98] }
    let a : Arg := { id := [97], long := some [97], requires := [(.isPresent, [98])] }
    let c : Cmd := .mk [112] [] none none [] [] {} [a, b] [] []
    let ma : MatchedArg := { source := some .cmdline, rawVals := [[[118]]] }
    let p : P := { args := [([97], ma), ([98], ma)] }
    validate c p = .ok () ∧ c.find a.id = some a ∧ c.find b.id = some b ∧ p.args.get a.id = some ma ∧
      ma.checkExplicit .isPresent = true ∧ (Pred.isPresent, b.id) ∈ a.requires := by
  intro b a c ma p
  exact ⟨by rfl, by rfl, by rfl, by rfl, by rfl, by simp [a, b]⟩

end Clap.C03

/-
C15 — Derived parsers are exactly their command plus field extraction, and round-trip.

`try_parse_from = command().try_get_matches_from ∘ from_arg_matches` is the
trait's own definition (derive.rs); the theorems are about the per-shape field
extraction the macro generates, interpreted from rows re-extracted from the
macro source on every run.
-/
import ClapModel
namespace Clap.C15
open Clap Derive Gen

theorem flatten_map_singleton (vs : List Bytes) : (vs.map fun v => [v]).flatten = vs := by
  induction vs with
  | nil => rfl
  | cons x xs ih => simp [ih]

/-- **round trip at the matches level**: for every shape and every value the canonical printer can
express, reading the field back from what the parser stores for that value gives the value -/
theorem roundtrip (v : Val) (hw : WellFormed v = true) (r : DeriveRow) (hr : rowOf (shapeOf v) = some r) :
    extract r (store v) = .ok v := by
  -- once the shape is known the look-up computes: `cases hr` puts the table's row for `r`
  cases v with
  | unit | one x => cases hr; rfl
  | opt o => cases hr; cases o <;> rfl
  | optOpt o =>
    cases hr
    cases o with
    | none => rfl
    | some i => cases i <;> rfl
  | vec vs =>
    cases hr
    cases vs with
    | nil => rfl
    | cons x xs => simp [store, extract, removeMany, flatten_map_singleton]
  | optVec o =>
    cases hr
    cases o with
    | none => rfl
    | some vs =>
      cases vs with
      | nil => simp [WellFormed] at hw
      | cons x xs => simp [store, extract, removeMany, flatten_map_singleton]
  | vecVec gs => cases hr; cases gs <;> rfl
  | optVecVec o => cases hr; cases o <;> rfl

/-- every shape has a row (the table covers `Ty`) -/
theorem rows_cover (t : DTy) : (rowOf t).isSome = true := by cases t <;> decide

/-- **`Option<Option<T>>` by presence and value count** -/
theorem optionOption_presence (r : DeriveRow) (hr : rowOf .optionOption = some r) (v : Bytes) :
    extract r none = .ok (.optOpt none) ∧ extract r (some [[]]) = .ok (.optOpt (some none)) ∧
    extract r (some [[v]]) = .ok (.optOpt (some (some v))) := by
  cases hr
  exact ⟨rfl, rfl, rfl⟩

/-- **`Vec` is empty when absent, `Option<Vec>` is `None` when absent, `Vec<Vec>` keeps occurrences apart** -/
theorem vec_shapes (rv rov rvv : DeriveRow) (h1 : rowOf .vec = some rv) (h2 : rowOf .optionVec = some rov)
    (h3 : rowOf .vecVec = some rvv) (gs : List (List Bytes)) :
    extract rv none = .ok (.vec []) ∧ extract rov none = .ok (.optVec none) ∧
    extract rv (some gs) = .ok (.vec gs.flatten) ∧ extract rvv (some gs) = .ok (.vecVec gs) := by
  cases h1
  cases h2
  cases h3
  exact ⟨rfl, rfl, rfl, rfl⟩

/-- a required field (`T`) reports `MissingRequiredArgument` exactly when the matches hold no value for it -/
theorem required_missing (r : DeriveRow) (hr : rowOf .other = some r) (e : Entry) :
    (extract r e = .error .missingRequired) ↔ removeOne e = none := by
  cases hr
  simp only [extract]
  cases h : removeOne e <;> simp

/-- **update changes a field only if its id is in the matches** -/
theorem update_frame (r : DeriveRow) (old : Val) : update r old none = .ok old := by
  simp [update, updateGuardedByContainsId]

/-- … and when it is, the field becomes what a fresh parse would give -/
theorem update_assigns (r : DeriveRow) (old : Val) (e : Entry) (h : e.isSome = true) : update r old e = extract r e := by
  simp [update, updateGuardedByContainsId, h]

/-! #### value enums -/

/-- no name or alias is declared by two different variants -/
def NamesDistinct (vs : List Variant) : Prop :=
  ∀ w1 ∈ vs, ∀ w2 ∈ vs, ∀ n, n ∈ w1.names → n ∈ w2.names → w1.id = w2.id

/-- **every name and alias maps back to its variant** -/
theorem value_enum_roundtrip (vs : List Variant) (hd : NamesDistinct vs) (v : Variant) (hv : v ∈ vs) (n : Bytes)
    (hn : n ∈ v.names) : fromStr vs n false = some v.id := by
  unfold fromStr
  cases hf : vs.find? fun w => vmatches w n false with
  | none =>
    have := List.find?_eq_none.1 hf v hv
    simp [vmatches, hn] at this
  | some w =>
    have hw := List.mem_of_find?_eq_some hf
    have hm := List.find?_some hf
    simp only [vmatches, Bool.false_eq_true, ↓reduceIte, List.contains_iff_mem] at hm
    simp [hd w hw v hv n hm hn]

/-- without distinctness the first declaring variant wins (why the hypothesis is needed) -/
example : fromStr [⟨0, [[97]]⟩, ⟨1, [[98], [97]]⟩] [97] false = some 0 := by decide +kernel

/-- non-vacuity of `roundtrip` on a nested value -/
example : extract ⟨.vecVec, .occ, false, false, true, false, .append, .none, false, false⟩ (store (.vecVec [[[1], [2]], [[3]]])) =
    .ok (.vecVec [[[1], [2]], [[3]]]) := by rfl

/-! #### `Option<subcommand>` fields under update -/

/-- **an update line without a subcommand leaves an `Option<subcommand>` field alone** - whether it is `Some` or
`None` (the `None` case is the repaired F28: it used to be `MissingSubcommand`) -/
theorem optsub_update_without_subcommand (schema : Bytes → List Bytes) (cur : Option SubVal) :
    updateOptSub schema cur none = .ok cur := by
  cases cur <;> simp [updateOptSub, optSubBuildsOnlyWhenNamed]

theorem lookup_mergeSub (v : SubVal) (l : SubLine) (f : Bytes) (x : Option Bytes) (h : (f, x) ∈ v.fields)
    (hn : lookupGiven l f = none) : (f, x) ∈ (mergeSub v l).fields := by
  unfold mergeSub
  simp only [List.mem_map]
  exact ⟨(f, x), h, by simp [hn]⟩

/-- **updating the current variant changes only the fields named on the line**: a field of the held variant that the
line does not name is still there with its old value; the variant is the same -/
theorem optsub_update_same_variant_frame (schema : Bytes → List Bytes) (v : SubVal) (l : SubLine)
    (hsame : v.name = l.name) (f : Bytes) (x : Option Bytes) (h : (f, x) ∈ v.fields) (hn : lookupGiven l f = none) :
    ∃ v', updateOptSub schema (some v) (some l) = .ok (some v') ∧ v'.name = v.name ∧ (f, x) ∈ v'.fields := by
  refine ⟨mergeSub v l, ?_, rfl, lookup_mergeSub v l f x h hn⟩
  simp [updateOptSub, optSubMergesExisting, updateSub, hsame]

/-- ... and a field the line does name takes the line's value -/
theorem optsub_update_named_field (schema : Bytes → List Bytes) (v : SubVal) (l : SubLine)
    (hsame : v.name = l.name) (f : Bytes) (x : Option Bytes) (y : Bytes) (h : (f, x) ∈ v.fields) (hy : lookupGiven l f = some y) :
    ∃ v', updateOptSub schema (some v) (some l) = .ok (some v') ∧ (f, some y) ∈ v'.fields := by
  refine ⟨mergeSub v l, by simp [updateOptSub, optSubMergesExisting, updateSub, hsame], ?_⟩
  unfold mergeSub
  simp only [List.mem_map]
  exact ⟨(f, x), h, by simp [hy]⟩

/-- naming another variant (or any variant while the field is `None`) builds that variant from the line -/
theorem optsub_update_switch (schema : Bytes → List Bytes) (cur : Option SubVal) (l : SubLine)
    (hother : ∀ v, cur = some v → v.name ≠ l.name) :
    updateOptSub schema cur (some l) = .ok (some (buildSub schema l)) := by
  cases cur with
  | none => rfl
  | some v =>
    have := hother v rfl
    simp [updateOptSub, optSubMergesExisting, updateSub, this]

example : updateOptSub (fun _ => [[97], [98]]) (some ⟨[120], [([97], some [49]), ([98], some [50])]⟩) (some ⟨[120], [([97], [53])]⟩)
    = .ok (some ⟨[120], [([97], some [53]), ([98], some [50])]⟩) := by rfl

end Clap.C15

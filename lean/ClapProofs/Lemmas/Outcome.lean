/-
Outcomes of the parser's state-threading functions (`R α = P × Except EK α`): one predicate says what holds of
the final state whatever happened, which errors are possible, and what a result satisfies together with the final
state. Specifications of the parser are stated with it so that the function occurs once in the goal.
-/
import ClapModel
namespace Clap

/-- `I` holds of the final state in any case, an error satisfies `E`, a result satisfies `Q` with the final state -/
def Out {α : Type} (I : P → Prop) (E : EK → Prop) (Q : P → α → Prop) (x : R α) : Prop :=
  I x.1 ∧ match x.2 with
    | .error e => E e
    | .ok a => Q x.1 a

namespace Out
variable {α : Type} {I I' : P → Prop} {E E' : EK → Prop} {Q Q' : P → α → Prop} {x : R α} {p : P}

theorem ok {a : α} (hI : I p) (hQ : Q p a) : Out I E Q (p, .ok a) := ⟨hI, hQ⟩
theorem error {e : EK} (hI : I p) (hE : E e) : Out I E Q (p, .error e) := ⟨hI, hE⟩

theorem intro (hI : I x.1) (hE : ∀ e, x.2 = .error e → E e) (hQ : ∀ a, x.2 = .ok a → Q x.1 a) : Out I E Q x := by
  obtain ⟨p, r⟩ := x
  cases r with
  | error e => exact ⟨hI, hE e rfl⟩
  | ok a => exact ⟨hI, hQ a rfl⟩

theorem fst (h : Out I E Q x) : I x.1 := h.1

theorem fst_of (h : Out I E Q x) (hI : I' x.1) : Out I' E Q x := ⟨hI, h.2⟩

theorem of_error (h : Out I E Q x) {e : EK} (hx : x.2 = .error e) : E e := by
  have := h.2; rw [hx] at this; exact this

theorem of_ok (h : Out I E Q x) {a : α} (hx : x.2 = .ok a) : Q x.1 a := by
  have := h.2; rw [hx] at this; exact this

theorem of_eq_ok (h : Out I E Q x) {a : α} (hx : x = (p, .ok a)) : Q p a := by
  rw [hx] at h; exact h.2

/-- an `if` is met branch by branch (cheaper to check than `split` on a large goal) -/
theorem ite {c : Prop} [Decidable c] {x y : R α} (hx : c → Out I E Q x) (hy : ¬c → Out I E Q y) :
    Out I E Q (if c then x else y) := by
  split
  · exact hx ‹_›
  · exact hy ‹_›

/-- the two ways a computation can have gone, with what is known in each -/
theorem elim (h : Out I E Q x) :
    (∃ p e, x = (p, .error e) ∧ I p ∧ E e) ∨ (∃ p a, x = (p, .ok a) ∧ I p ∧ Q p a) := by
  obtain ⟨p, r⟩ := x
  cases r with
  | error e => exact Or.inl ⟨p, e, rfl, h⟩
  | ok a => exact Or.inr ⟨p, a, rfl, h⟩

theorem mono (h : Out I E Q x) (hI : ∀ p, I p → I' p) (hE : ∀ e, E e → E' e)
    (hQ : ∀ p a, I p → Q p a → Q' p a) : Out I' E' Q' x := by
  obtain ⟨p, r⟩ := x
  cases r with
  | error e => exact ⟨hI _ h.1, hE _ h.2⟩
  | ok a => exact ⟨hI _ h.1, hQ _ _ h.1 h.2⟩

end Out

end Clap

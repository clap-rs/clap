/-
Lookups in a command level (`find`, `getKey`, `findLong`) under clap's build assertions `WF`, and single steps of
the lexer's short-flag iterator.
-/
import ClapModel
import ClapProofs.Lemmas.ListFold
namespace Clap.C01
open Clap Parser

/-- what clap's own `debug_assert`s demand of a command level: unique arg ids, and a positional has no long name or alias -/
structure WF (c : Cmd) : Prop where
  nodup : (c.args.map (·.id)).Nodup
  posNoLong : ∀ a ∈ c.args, a.index.isSome = true → a.long = none ∧ a.aliases = []

theorem find_of_mem_aux : ∀ (l : List Arg) (a : Arg), (l.map (·.id)).Nodup → a ∈ l → l.find? (fun x => x.id == a.id) = some a
  | [], a, _, h => by simp at h
  | x :: xs, a, hnd, h => by
    simp only [List.map_cons, List.nodup_cons] at hnd
    rcases List.mem_cons.1 h with rfl | h'
    · simp
    · have hne : (x.id == a.id) = false := by
        apply Bool.eq_false_iff.2
        intro heq
        have : x.id = a.id := by simpa using heq
        exact hnd.1 (this ▸ List.mem_map_of_mem h')
      rw [List.find?_cons, hne]
      exact find_of_mem_aux xs a hnd.2 h'

theorem find_of_mem {c : Cmd} (wf : WF c) {a : Arg} (h : a ∈ c.args) : c.find a.id = some a :=
  find_of_mem_aux c.args a wf.nodup h

theorem getKey_mem {c : Cmd} {k : Key} {a : Arg} (h : c.getKey k = some a) : a ∈ c.args ∧ k ∈ a.keys := by
  unfold Cmd.getKey at h
  have h1 := List.mem_of_find?_eq_some h
  have h2 := List.find?_some h
  exact ⟨h1, by simpa using h2⟩

theorem keys_long_index {a : Arg} {l : Bytes} (h : Key.long l ∈ a.keys) : a.index = none := by
  unfold Arg.keys at h
  split at h
  · simp at h
  · assumption

theorem keys_short_index {a : Arg} {l : Bytes} (h : Key.short l ∈ a.keys) : a.index = none := by
  unfold Arg.keys at h
  split at h
  · simp at h
  · assumption

theorem keys_pos_index {a : Arg} {n : Nat} (h : Key.pos n ∈ a.keys) : a.index = some n := by
  unfold Arg.keys at h
  split at h
  · next i hi => simp at h; rw [hi, h]
  · simp at h

theorem findLong_spec {c : Cmd} (wf : WF c) {l : Bytes} {a : Arg} (h : findLong c l = some a) :
    c.find a.id = some a ∧ a.index = none := by
  unfold findLong at h
  split at h
  · next a' hg =>
    simp at h; subst h
    obtain ⟨hm, hk⟩ := getKey_mem hg
    exact ⟨find_of_mem wf hm, keys_long_index hk⟩
  · split at h
    · split at h
      · next a' hf =>
        simp at h; subst h
        have hm : a' ∈ c.args.filter fun a => prefixMatches a l := by rw [hf]; simp
        obtain ⟨hm1, hm2⟩ := List.mem_filter.1 hm
        refine ⟨find_of_mem wf hm1, ?_⟩
        cases hi : a'.index with
        | none => rfl
        | some i =>
          obtain ⟨h1, h2⟩ := wf.posNoLong a' hm1 (by simp [hi])
          simp [prefixMatches, h1, h2] at hm2
      · simp at h
    · simp at h

theorem getShort_spec {c : Cmd} (wf : WF c) {ch : Bytes} {a : Arg} (h : c.getShort ch = some a) :
    c.find a.id = some a ∧ a.index = none := by
  obtain ⟨hm, hk⟩ := getKey_mem h
  exact ⟨find_of_mem wf hm, keys_short_index hk⟩

theorem getPos_spec {c : Cmd} (wf : WF c) {n : Nat} {a : Arg} (h : c.getPos n = some a) :
    c.find a.id = some a ∧ a.index = some n := by
  obtain ⟨hm, hk⟩ := getKey_mem h
  exact ⟨find_of_mem wf hm, keys_pos_index hk⟩

theorem find_id {c : Cmd} {id : Id} {a : Arg} (h : c.find id = some a) : a.id = id := by
  unfold Cmd.find at h
  simpa using List.find?_some h

theorem toLong_nonempty {b l : Bytes} {u : Bool} {v : Option Bytes} (h : ParsedArg.toLong b = some (l, u, v)) :
    (l.isEmpty && v.isNone) = false := by
  unfold ParsedArg.toLong at h
  split at h
  · simp at h
  · split at h
    · simp at h
    · next rem _ hne =>
      split at h
      · simp at h; obtain ⟨_, _, rfl⟩ := h; simp
      · simp at h; obtain ⟨rfl, _, rfl⟩ := h; simpa using hne

end Clap.C01

namespace Clap.ShortFlags

theorem nextFlag_ch {sf sf1 : ShortFlags} {ch : Bytes} (h : sf.nextFlag = (sf1, .ch ch)) :
    sf.chars = ch :: sf1.chars ∧ sf1.invalid = sf.invalid := by
  unfold nextFlag at h
  split at h
  · next c0 cs hc => cases h; exact ⟨hc, rfl⟩
  · split at h <;> cases h

theorem nextFlag_bad {sf sf1 : ShortFlags} {b : Bytes} (h : sf.nextFlag = (sf1, .bad b)) : sf.invalid.isSome = true := by
  unfold nextFlag at h
  split at h
  · cases h
  · split at h
    · next hs => rw [hs]; rfl
    · cases h

/-- skipping `n` flags of a cluster that has them succeeds and leaves a tail of the cluster -/
theorem advanceBy_sub : ∀ (n i : Nat) (sf : ShortFlags), n ≤ sf.chars.length →
    ∃ sf1, advanceBy n i sf = (sf1, none) ∧ n + sf1.chars.length = sf.chars.length ∧
      (∀ x, x ∈ sf1.chars → x ∈ sf.chars) ∧ sf1.invalid = sf.invalid
  | 0, i, sf, _ => ⟨sf, rfl, by simp, fun _ h => h, rfl⟩
  | n+1, i, sf, h => by
    cases hc : sf.chars with
    | nil => rw [hc] at h; simp at h
    | cons ch cs =>
      have hnf : sf.nextFlag = ({ sf with chars := cs, off := sf.off + ch.length }, .ch ch) := by
        unfold nextFlag; rw [hc]
      obtain ⟨sf1, h1, h2, h3, h4⟩ := advanceBy_sub n (i+1) { sf with chars := cs, off := sf.off + ch.length }
        (by rw [hc] at h; simpa using h)
      refine ⟨sf1, by unfold advanceBy; rw [hnf]; exact h1, by simp at h2 ⊢; omega,
        fun x hx => List.mem_cons_of_mem _ (h3 x hx), h4⟩

end Clap.ShortFlags

namespace Clap.C01
open Clap Parser

/-- whatever `possible_subcommand` answers comes from a name or alias `m` of a subcommand `s` of the level: under
`infer_subcommands` the token is a prefix of `m` and the answer is `m` itself; otherwise the token is `m` and the answer is
`s`'s name -/
theorem possibleSubcommand_sound {c : Cmd} {tok : Bytes} {vaf : Bool} {n : Bytes} (h : possibleSubcommand c tok vaf = some n) :
    ∃ s ∈ c.subs, ∃ m, (m = s.name ∨ m ∈ s.aliases) ∧
      ((n = m ∧ Bytes.startsWith m tok = true) ∨ (n = s.name ∧ m = tok)) := by
  -- the guards are met one by one: `split` on the whole body is dear
  rw [possibleSubcommand] at h
  by_cases h1 : (!Utf8.valid tok) = true
  · rw [if_pos h1] at h; cases h
  by_cases h2 : (c.settings.argsConflictsWithSubcommands && vaf) = true
  · rw [if_neg h1, if_pos h2] at h; cases h
  rw [if_neg h1, if_neg h2] at h
  simp only at h
  split at h
  · next n' hinf =>
    cases h
    by_cases hi : c.settings.inferSubcommands = true
    · rw [if_pos hi] at hinf
      split at hinf
      · next x hx =>
        cases hinf
        obtain ⟨s, hs, hsx⟩ := exists_of_filterMap_eq_singleton hx
        by_cases hp : Bytes.startsWith s.name tok = true
        · rw [if_pos hp] at hsx
          cases hsx
          exact ⟨s, hs, s.name, .inl rfl, .inl ⟨rfl, hp⟩⟩
        · rw [if_neg hp] at hsx
          exact ⟨s, hs, n, .inr (List.mem_of_find?_eq_some hsx),
            .inl ⟨rfl, List.find?_some (p := fun al => Bytes.startsWith al tok) hsx⟩⟩
      · cases hinf
    · rw [if_neg hi] at hinf
      cases hinf
  · obtain ⟨s, hf, rfl⟩ := Option.map_eq_some_iff.1 h
    have hs : s ∈ c.subs := List.mem_of_find?_eq_some hf
    have ha : (s.name == tok || s.aliases.contains tok) = true := List.find?_some (p := fun s : Cmd => s.aliasesTo tok) hf
    rcases Bool.or_eq_true_iff.1 ha with h3 | h3
    · exact ⟨s, hs, tok, .inl (eq_of_beq h3).symm, .inr ⟨rfl, rfl⟩⟩
    · exact ⟨s, hs, tok, .inr (List.contains_iff_mem.1 h3), .inr ⟨rfl, rfl⟩⟩

/-- whatever `possible_long_flag_subcommand` answers is the name of a subcommand of the level whose long flag or one of
its aliases the token is or, under `infer_subcommands`, is a prefix of -/
theorem possibleLongFlagSubcommand_sound {c : Cmd} {arg n : Bytes} (h : possibleLongFlagSubcommand c arg = some n) :
    ∃ s ∈ c.subs, n = s.name ∧ (s.longFlagAliasesTo arg = true ∨ ∃ long, s.longFlag = some long ∧
      (Bytes.startsWith long arg = true ∨ (s.longFlagAliases.any fun al => Bytes.startsWith al arg) = true)) := by
  rw [possibleLongFlagSubcommand] at h
  simp only at h
  split at h
  · next n' hinf =>
    cases h
    by_cases hi : c.settings.inferSubcommands = true
    · rw [if_pos hi] at hinf
      split at hinf
      · next x hx =>
        cases hinf
        obtain ⟨s, hs, hsx⟩ := exists_of_filterMap_eq_singleton hx
        cases hl : s.longFlag with
        | none => rw [hl] at hsx; cases hsx
        | some long =>
          rw [hl] at hsx
          simp only at hsx
          by_cases hp : Bytes.startsWith long arg = true
          · rw [if_pos hp] at hsx
            cases hsx
            exact ⟨s, hs, rfl, .inr ⟨long, hl, .inl hp⟩⟩
          · rw [if_neg hp] at hsx
            by_cases hq : (s.longFlagAliases.any fun al => Bytes.startsWith al arg) = true
            · rw [if_pos hq] at hsx
              cases hsx
              exact ⟨s, hs, rfl, .inr ⟨long, hl, .inr hq⟩⟩
            · rw [if_neg hq] at hsx
              cases hsx
      · cases hinf
    · rw [if_neg hi] at hinf
      cases hinf
  · obtain ⟨s, hf, rfl⟩ := Option.map_eq_some_iff.1 h
    exact ⟨s, List.mem_of_find?_eq_some hf, rfl, .inl (List.find?_some (p := fun s : Cmd => s.longFlagAliasesTo arg) hf)⟩

end Clap.C01

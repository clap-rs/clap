import ClapModel
import ClapProofs.Lemmas.WrapWidth
/-!
The width bound of `LineWrapper::wrap` in DISPLAY COLUMNS, for text with characters of any width
(wide, zero-width, multi-byte): the only requirements are that the text holds no ASCII control
character, that its only whitespace is the space, and that the space is one column wide.
The bound for one column and one byte per character (`Plain`, lengths; the definitions are in `WrapWidth.lean`)
is the instance `cw = fun _ => 1`, at the end of this file.
-/
namespace Clap.TextWrap
open Clap.C20 (wordCost)

/-- no control characters; the only whitespace is the space; the space is one column -/
def SPlain (cw : Char → Nat) (s : Str) : Prop :=
  ∀ c ∈ s, isAsciiControl c = false ∧ (isWs c = true → c = ' ') ∧ (c = ' ' → cw c = 1)

/-- display columns of a text without control characters -/
def dw (cw : Char → Nat) (s : Str) : Nat := (s.map cw).sum

theorem SPlain.cons {cw : Char → Nat} {c : Char} {s : Str} (h : SPlain cw (c :: s)) : SPlain cw s :=
  fun x hx => h x (List.mem_cons_of_mem _ hx)

theorem dw_append (cw : Char → Nat) (a b : Str) : dw cw (a ++ b) = dw cw a + dw cw b := by
  simp [dw]

theorem byteLen_append (a b : Str) : byteLen (a ++ b) = byteLen a + byteLen b := by
  simp [byteLen]

theorem displayWidthAux_splain (cw : Char → Nat) (s : Str) (h : SPlain cw s) : displayWidthAux cw false s = dw cw s := by
  induction s with
  | nil => rfl
  | cons c r ih =>
    have hc := h c List.mem_cons_self
    simp only [displayWidthAux, hc.1, Bool.false_eq_true, ↓reduceIte, Bool.false_and, ih h.cons, dw, List.map_cons, List.sum_cons]

theorem trimEnd_splain (cw : Char → Nat) (s : Str) (h : SPlain cw s) : trimEnd s = trimSp s := by
  unfold trimEnd trimSp
  apply dropWhileEnd_congr
  intro c hc
  have := (h c hc).2.1
  by_cases hw : isWs c = true
  · have hc' := this hw
    subst hc'
    decide
  · have : c ≠ ' ' := by intro e; subst e; exact hw (by decide)
    simp [hw, this]

theorem splain_trimSp (cw : Char → Nat) (e : Str) (h : SPlain cw e) : SPlain cw (trimSp e) :=
  fun c hc => h c (dropWhileEnd_sublist _ e c hc)

/-- a run of spaces of splain text measures its length, in bytes and in columns -/
theorem spaces_measure (cw : Char → Nat) (t : Str) (h : SPlain cw t) (hs : t.all (· == ' ') = true) :
    byteLen t = t.length ∧ dw cw t = t.length := by
  induction t with
  | nil => exact ⟨rfl, rfl⟩
  | cons c r ih =>
    simp only [List.all_cons, Bool.and_eq_true, beq_iff_eq] at hs
    obtain ⟨hc, hr⟩ := hs
    have ⟨i1, i2⟩ := ih h.cons hr
    have hcw := (h c List.mem_cons_self).2.2 hc
    subst hc
    have hu : utf8Len ' ' = 1 := by decide
    simp only [byteLen, List.map_cons, List.sum_cons, hu, dw, hcw, List.length_cons] at i1 i2 ⊢
    omega

theorem dw_trimSp_le (cw : Char → Nat) (e : Str) : dw cw (trimSp e) ≤ dw cw e := by
  obtain ⟨t, hwt, _⟩ := dropWhileEnd_spec (· == ' ') e
  have : dw cw e = dw cw (trimSp e) + dw cw t := by
    conv => lhs; rw [hwt]
    exact dw_append cw _ _
  omega

/-- the three facts about a word the loop's bookkeeping rests on -/
theorem word_facts (cw : Char → Nat) (w : Str) (h : SPlain cw w) :
    displayWidth cw (trimEnd w) = dw cw (trimSp w) ∧
    byteLen w - byteLen (trimEnd w) = dw cw w - dw cw (trimSp w) ∧
    dw cw (trimSp w) ≤ dw cw w := by
  obtain ⟨t, hwt, hall⟩ := dropWhileEnd_spec (· == ' ') w
  change w = trimSp w ++ t at hwt
  obtain ⟨m1, m2⟩ := spaces_measure cw t (fun c hc => h c (by rw [hwt]; exact List.mem_append_right _ hc)) hall
  -- `congrArg`, not `rw`: `w` occurs on both sides of `hwt`
  have hb := (congrArg byteLen hwt).trans (byteLen_append _ _)
  have hd := (congrArg (dw cw) hwt).trans (dw_append cw _ _)
  rw [trimEnd_splain cw w h]
  refine ⟨displayWidthAux_splain cw _ (splain_trimSp cw w h), ?_, dw_trimSp_le cw w⟩
  rw [hb, hd, m1, m2, Nat.add_sub_cancel_left, Nat.add_sub_cancel_left]

/-- columns of a line's text -/
def lineW (cw : Char → Nat) (l : List Str) : Nat := (l.map (dw cw)).sum

theorem lineW_cons (cw : Char → Nat) (e : Str) (l : List Str) : lineW cw (e :: l) = dw cw e + lineW cw l := rfl

/-- … with the trailing spaces of its last (newest) element removed -/
def lineTrimW (cw : Char → Nat) : List Str → Nat
  | [] => 0
  | e :: older => lineW cw older + dw cw (trimSp e)

theorem lineTrimW_le (cw : Char → Nat) (l : List Str) : lineTrimW cw l ≤ lineW cw l := by
  cases l with
  | nil => simp [lineTrimW, lineW]
  | cons e r =>
    have := dw_trimSp_le cw e
    simp only [lineTrimW, lineW, List.map_cons, List.sum_cons]
    omega

/-- a line is fine if it fits, or if it is no wider than the hanging indent plus one (trimmed) word -/
def GoodW (cw : Char → Nat) (hard carryLen : Nat) (words : List Str) (l : List Str) : Prop :=
  lineTrimW cw l ≤ hard ∨ ∃ w ∈ words, lineTrimW cw l ≤ carryLen + dw cw (trimSp w)

theorem splain_ne_marker (cw : Char → Nat) (w : Str) (h : SPlain cw w) : (w == ['\n']) = false := by
  by_cases e : w = ['\n']
  · subst e
    have := (h '\n' (by simp)).1
    simp [isAsciiControl] at this
  · simpa using e

/-- every element of the accumulator is the break marker or splain text -/
def AccOkW (cw : Char → Nat) (acc : List Str) : Prop := ∀ e ∈ acc, e = ['\n'] ∨ SPlain cw e

/-- trimming the newest piece leaves the trimmed width of the current line and the finished lines as they are -/
theorem linesOf_trimLastW (cw : Char → Nat) (acc : List Str) (hok : AccOkW cw acc) :
    lineTrimW cw (cur (trimLast acc)) = lineTrimW cw (cur acc) ∧ fin (trimLast acc) = fin acc ∧ AccOkW cw (trimLast acc) := by
  cases acc with
  | nil => exact ⟨rfl, rfl, hok⟩
  | cons e r =>
    rcases hok e List.mem_cons_self with rfl | hp
    · exact ⟨rfl, rfl, hok⟩
    · have hp' := splain_trimSp cw e hp
      have hm := splain_ne_marker cw e hp
      have hm' := splain_ne_marker cw _ hp'
      have h1 : trimLast (e :: r) = trimSp e :: r := rfl
      rw [h1, cur_cons_word hm', cur_cons_word hm, fin_cons_word hm', fin_cons_word hm]
      refine ⟨by simp only [lineTrimW, trimSp_idem], rfl, ?_⟩
      intro x hx
      rcases List.mem_cons.1 hx with rfl | hx
      · exact Or.inr hp'
      · exact hok x (List.mem_cons_of_mem _ hx)

/-- the carried indent: splain and all spaces -/
def CarryOk (cw : Char → Nat) (c : Str) : Prop := SPlain cw c ∧ c.all (· == ' ') = true

/-- **The loop keeps every line good, in columns.** The invariant: every piece is the marker or splain, `lineWidth` is
the width of the current line, every line is good. All that is asked of the carried indent is that its bytes and its
columns are both its length (an indent of spaces; any plain text). -/
theorem wrapLoop_cols (cw : Char → Nat) (allw : List Str) : ∀ (ws : List Str) (st : LW) (first : Bool) (acc : List Str),
    (∀ w ∈ ws, SPlain cw w ∧ w ∈ allw) → AccOkW cw acc →
    (∀ c, st.carry = some c → SPlain cw c ∧ byteLen c = c.length ∧ dw cw c = c.length) →
    (first = true → acc = []) → st.lineWidth = lineW cw (cur acc) →
    (∀ l ∈ linesOf acc, GoodW cw st.hard (carryLen st) allw l) →
    ∀ l ∈ linesOf (wrapLoop cw st first acc ws).2, GoodW cw st.hard (carryLen st) allw l
  | [], _, _, _, _, _, _, _, _, hg => hg
  | word :: ws, st, first, acc, hw, hok, hcar, hfirst, hlw, hg => by
    obtain ⟨hpw, hmem⟩ := hw word List.mem_cons_self
    have hws : ∀ w ∈ ws, SPlain cw w ∧ w ∈ allw := fun w h => hw w (List.mem_cons_of_mem _ h)
    have hnm := splain_ne_marker cw word hpw
    obtain ⟨hdw, hdelta, hle⟩ := word_facts cw word hpw
    have hcost : wordCost cw word = dw cw word := by rw [wordCost, hdw, hdelta]; exact Nat.add_sub_of_le hle
    have hcl : (∀ x ∈ st.carry.toList, SPlain cw x) ∧ byteLen (st.carry.getD []) = carryLen st ∧
        lineW cw st.carry.toList = carryLen st := by
      cases h : st.carry with
      | none => simp [carryLen, h, lineW, byteLen]
      | some c => obtain ⟨h1, h2, h3⟩ := hcar c h; simpa [carryLen, h, lineW, h2, h3] using h1
    have ih := fun lw a => wrapLoop_cols cw allw ws ⟨st.hard, lw, st.carry⟩ false a hws
    rw [wrapLoop_cons, hcost, hdw]
    split
    · -- a break before this word: the current line is closed as it stands, the new one is the indent and the word
      obtain ⟨ht1, ht3, ht4⟩ := linesOf_trimLastW cw acc hok
      obtain ⟨hc1, hc2⟩ := linesOf_append_marker (word :: st.carry.toList) (trimLast acc)
        (fun x hx => (List.mem_cons.1 hx).elim (· ▸ hnm) (fun hx => splain_ne_marker cw x (hcl.1 x hx)))
      rw [List.cons_append] at hc1 hc2
      refine ih _ _ ?_ hcar (by simp) ?_ ?_
      · intro e he
        simp only [List.mem_cons, List.mem_append] at he
        rcases he with rfl | he | rfl | he
        · exact Or.inr hpw
        · exact Or.inr (hcl.1 e he)
        · exact Or.inl rfl
        · exact ht4 e he
      · rw [hc1, hcl.2.1, lineW_cons, hcl.2.2]
        exact Nat.add_comm _ _
      · rw [forall_linesOf, hc1, hc2, forall_linesOf, ht3]
        refine ⟨Or.inr ⟨word, hmem, ?_⟩, ?_, (forall_linesOf.1 hg).2⟩
        · simp only [lineTrimW, hcl.2.2]; exact Nat.le_refl _
        · have := (forall_linesOf.1 hg).1
          unfold GoodW at this ⊢
          rwa [ht1]
    · -- the word stays on the current line: alone on it if it is the first, else because it fits
      next hnb =>
      refine ih _ _ ?_ hcar (by simp) ?_ ?_
      · intro e he
        rcases List.mem_cons.1 he with rfl | he
        · exact Or.inr hpw
        · exact hok e he
      · rw [cur_cons_word hnm, lineW_cons, hlw]
        exact Nat.add_comm _ _
      · rw [forall_linesOf, cur_cons_word hnm, fin_cons_word hnm]
        refine ⟨?_, (forall_linesOf.1 hg).2⟩
        cases first with
        | true =>
          rw [hfirst rfl]
          exact Or.inr ⟨word, hmem, by simp [lineTrimW, lineW, cur, linesOf]⟩
        | false =>
          simp only [Bool.not_false, Bool.true_and, decide_eq_true_eq, Nat.not_lt] at hnb
          exact Or.inl (by rw [lineTrimW, ← hlw]; exact hnb)

/-- the loop keeps every line good, in columns -/
theorem wrapLoop_goodW (cw : Char → Nat) (allw : List Str) : ∀ (ws : List Str) (st : LW) (first : Bool) (acc : List Str),
    (∀ w ∈ ws, SPlain cw w ∧ w ∈ allw) → AccOkW cw acc → (∀ c, st.carry = some c → CarryOk cw c) →
    (first = true → acc = [] ∧ st.lineWidth = 0) →
    (first = false → st.lineWidth = lineW cw (cur acc)) →
    (∀ l ∈ linesOf acc, GoodW cw st.hard (carryLen st) allw l) →
    ∀ l ∈ linesOf (wrapLoop cw st first acc ws).2, GoodW cw st.hard (carryLen st) allw l := by
  intro ws st first acc hw hok hcar hfirst hlw
  refine wrapLoop_cols cw allw ws st first acc hw hok
    (fun c hc => ⟨(hcar c hc).1, spaces_measure cw c (hcar c hc).1 (hcar c hc).2⟩) (fun h => (hfirst h).1) ?_
  cases first with
  | true => obtain ⟨rfl, h0⟩ := hfirst rfl; exact h0
  | false => exact hlw rfl

/-! ### One column and one byte per character: the instance `cw = fun _ => 1`
The loop looks at `cw` only on the characters of its words (`wrapLoop_congr`), on `Plain cw` text `cw` is `fun _ => 1`,
and measured with `fun _ => 1` columns are lengths - for every text, plain or not. -/

theorem Plain.splain_one {cw : Char → Nat} {s : Str} (h : Plain cw s) : SPlain (fun _ => 1) s :=
  fun c hc => ⟨(h c hc).2.1, (h c hc).2.2.2, fun _ => rfl⟩

theorem Plain.splain {cw : Char → Nat} {s : Str} (h : Plain cw s) : SPlain cw s :=
  fun c hc => ⟨(h c hc).2.1, (h c hc).2.2.2, fun _ => (h c hc).1⟩

theorem dw_one : dw (fun _ => 1) = List.length := by
  funext s
  induction s with
  | nil => rfl
  | cons c s ih => simp only [dw, List.map_cons, List.sum_cons, List.length_cons] at ih ⊢; omega

theorem dw_plain {cw : Char → Nat} {s : Str} (h : Plain cw s) : dw cw s = s.length := by
  rw [← dw_one]; exact congrArg List.sum (List.map_congr_left (fun c hc => (h c hc).1))

theorem lineW_one (l : List Str) : lineW (fun _ => 1) l = lineLen l := by rw [lineW, dw_one, lineLen]

theorem lineTrimW_one (l : List Str) : lineTrimW (fun _ => 1) l = lineTrimLen l := by
  cases l <;> simp only [lineTrimW, lineTrimLen, lineW_one, dw_one]

theorem goodW_one (hard cl : Nat) (words : List Str) (l : List Str) : GoodW (fun _ => 1) hard cl words l ↔ Good hard cl words l := by
  simp only [GoodW, Good, lineTrimW_one, dw_one]

theorem lineTrimLen_le (l : List Str) : lineTrimLen l ≤ lineLen l := by
  rw [← lineTrimW_one, ← lineW_one]; exact lineTrimW_le _ l

/-- the loop keeps every line good -/
theorem wrapLoop_good (cw : Char → Nat) (allw : List Str) : ∀ (ws : List Str) (st : LW) (first : Bool) (acc : List Str),
    (∀ w ∈ ws, Plain cw w ∧ w ∈ allw) → AccOk cw acc → (∀ c, st.carry = some c → Plain cw c) →
    (first = true → acc = [] ∧ st.lineWidth = 0) →
    (first = false → st.lineWidth = lineLen (cur acc)) →
    (∀ l ∈ linesOf acc, Good st.hard (carryLen st) allw l) →
    ∀ l ∈ linesOf (wrapLoop cw st first acc ws).2, Good st.hard (carryLen st) allw l := by
  intro ws st first acc hw hok hcar hfirst hlw hg
  rw [wrapLoop_congr cw (fun _ => 1) ws st first acc (fun w hw' c hc => ((hw w hw').1 c hc).1)]
  simp only [← goodW_one] at hg ⊢
  refine wrapLoop_cols (fun _ => 1) allw ws st first acc (fun w h => ⟨(hw w h).1.splain_one, (hw w h).2⟩)
    (fun e he => (hok e he).imp id Plain.splain_one)
    (fun c hc => ⟨(hcar c hc).splain_one, byteLen_plain cw c (hcar c hc), congrFun dw_one c⟩) (fun h => (hfirst h).1) ?_ hg
  rw [lineW_one]
  cases first with
  | true => obtain ⟨rfl, h0⟩ := hfirst rfl; exact h0
  | false => exact hlw rfl

end Clap.TextWrap

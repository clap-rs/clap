import ClapProofs.Lemmas.Store
namespace Clap
open Parser

namespace MatchedArg
theorem newValGroup_ne_nil (m : MatchedArg) : m.newValGroup.rawVals ≠ [] := by simp [newValGroup]
theorem setSource_rawVals (m : MatchedArg) (s : Source) : (m.setSource s).rawVals = m.rawVals := rfl
theorem pushIndex_rawVals (m : MatchedArg) (i : Nat) : (m.pushIndex i).rawVals = m.rawVals := rfl
end MatchedArg

end Clap

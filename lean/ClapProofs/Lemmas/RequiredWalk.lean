/-
One round of the loop over the required graph in `validate_required`, said once: the verdict model
(`Validator.requiredLoop`) and the report model (`Usage.missingPass1`) are two folds over the same per-id outcome.
-/
import ClapModel.Usage
import ClapProofs.Lemmas.Validator
namespace Clap.Validator
open Clap Usage C01

/-- one round for the id `r`: `.error s` = the `expect` with message `s` fails, `.ok none` = nothing is missing,
`.ok (some (id, oa))` = `id` is missing (`oa` is the arg when it is one: pass 1 of the report raises the highest
index with it) -/
def reqStep (c : Cmd) (m : ArgMap) (pot : List (Id × List Id)) (excl : Bool) (r : Id) : Except String (Option (Id × Option Arg)) :=
  if m.checkExplicit r .isPresent then .ok none else
  match c.find r with
  | some a =>
    match isMissingRequiredOk c pot a with
    | none => .error "is_missing_required_ok: expect group"
    | some ok => .ok (if !excl && !ok then some (a.id, some a) else none)
  | none =>
    match c.findGroup r with
    | some g =>
      match argsInGroup c g.id with
      | none => .error "unroll_args_in_group: expect"
      | some members => .ok (if !(members.any fun a => m.checkExplicit a .isPresent) then some (g.id, none) else none)
    | none => .ok none

def bumpIndex (hi : Nat) : Option Arg → Nat
  | none => hi
  | some a => if a.last then hi else max hi (a.index.getD 0)

theorem requiredLoop_cons (c : Cmd) (m : ArgMap) (pot : List (Id × List Id)) (ex : Bool) (r : Id) (rs : List Id) :
    requiredLoop c m pot ex (r :: rs) =
      match reqStep c m pot ex r with
      | .error s => .error (.panic s)
      | .ok none => requiredLoop c m pot ex rs
      | .ok (some _) => .ok true := by
  rw [requiredLoop, reqStep]
  by_cases hp : m.checkExplicit r .isPresent = true
  · rw [if_pos hp, if_pos hp]
  · rw [if_neg hp, if_neg hp]
    cases c.find r with
    | some a =>
      dsimp only
      cases isMissingRequiredOk c pot a with
      | none => rfl
      | some ok => cases ex <;> cases ok <;> rfl
    | none =>
      dsimp only
      cases c.findGroup r with
      | none => rfl
      | some g =>
        dsimp only
        cases argsInGroup c g.id with
        | none => rfl
        | some members => dsimp only; cases (members.any fun a => m.checkExplicit a .isPresent) <;> rfl

theorem missingPass1_cons (c : Cmd) (m : ArgMap) (pot : List (Id × List Id)) (ex : Bool) (r : Id) (rs acc : List Id) (hi : Nat) :
    missingPass1 c m pot ex (r :: rs) acc hi =
      match reqStep c m pot ex r with
      | .error _ => none
      | .ok none => missingPass1 c m pot ex rs acc hi
      | .ok (some (id, oa)) => missingPass1 c m pot ex rs (acc ++ [id]) (bumpIndex hi oa) := by
  rw [missingPass1, reqStep]
  by_cases hp : m.checkExplicit r .isPresent = true
  · rw [if_pos hp, if_pos hp]
  · rw [if_neg hp, if_neg hp]
    cases c.find r with
    | some a =>
      dsimp only
      cases isMissingRequiredOk c pot a with
      | none => rfl
      | some ok => cases ex <;> cases ok <;> rfl
    | none =>
      dsimp only
      cases c.findGroup r with
      | none => rfl
      | some g =>
        dsimp only
        cases argsInGroup c g.id with
        | none => rfl
        | some members => dsimp only; cases (members.any fun a => m.checkExplicit a .isPresent) <;> rfl

theorem reqStep_missing {c : Cmd} {m : ArgMap} {pot : List (Id × List Id)} {ex : Bool} {r id : Id} {oa : Option Arg}
    (h : reqStep c m pot ex r = .ok (some (id, oa))) :
    id = r ∧ m.checkExplicit r .isPresent = false ∧ ((c.find id).isSome = true ∨ (c.findGroup id).isSome = true) := by
  unfold reqStep at h
  split at h
  · cases h
  · next hp =>
    have hp := eq_false_of_ne_true hp
    split at h
    · next a hf =>
      split at h
      · cases h
      · split at h <;> cases h
        exact ⟨(C03.find_mem hf).2, hp, Or.inl (by rw [(C03.find_mem hf).2, hf]; rfl)⟩
    · split at h
      · next g hg =>
        split at h
        · cases h
        · split at h <;> cases h
          exact ⟨findGroup_id hg, hp, Or.inr (by rw [findGroup_id hg, hg]; rfl)⟩
      · cases h

theorem reqStep_fine {c : Cmd} {m : ArgMap} {pot : List (Id × List Id)} {ex : Bool} {r : Id}
    (h : reqStep c m pot ex r = .ok none) (hne : m.checkExplicit r .isPresent = false) :
    (∀ a, c.find r = some a → ex = true ∨ isMissingRequiredOk c pot a = some true) ∧
    (c.find r = none → ∀ g, c.findGroup r = some g → ∃ members, argsInGroup c g.id = some members ∧
        (members.any fun a => m.checkExplicit a .isPresent) = true) := by
  unfold reqStep at h
  rw [if_neg (by rw [hne]; exact Bool.false_ne_true)] at h
  split at h
  · next a hf =>
    refine ⟨fun a' ha' => ?_, fun hn => (nomatch hf.symm.trans hn)⟩
    cases hf.symm.trans ha'
    split at h
    · cases h
    · next ok hok =>
      rw [hok]
      cases ex
      · cases ok
        · cases h
        · exact Or.inr rfl
      · exact Or.inl rfl
  · next hf =>
    refine ⟨fun a ha => (nomatch hf.symm.trans ha), fun _ g' hg' => ?_⟩
    rw [hg'] at h
    simp only at h
    split at h
    · cases h
    · next members hm =>
      split at h
      · cases h
      · next hany => exact ⟨members, hm, by simpa using hany⟩

theorem reqStep_error {c : Cmd} {m : ArgMap} {pot : List (Id × List Id)} {ex : Bool} {r : Id} {s : String}
    (h : reqStep c m pot ex r = .error s) : ∃ g ∈ c.groups, argsInGroup c g.id = none := by
  unfold reqStep at h
  split at h
  · cases h
  · split at h
    · next a _ =>
      split at h
      · next hm => have := isMissingRequiredOk_isSome c pot a; rw [hm] at this; cases this
      · cases h
    · split at h
      · next g hg =>
        split at h
        · next ha => exact ⟨g, findGroup_mem_of hg, ha⟩
        · cases h
      · cases h

theorem requiredLoop_fine {c : Cmd} {m : ArgMap} {pot : List (Id × List Id)} {ex : Bool} : ∀ {l : List Id},
    requiredLoop c m pot ex l = .ok false → ∀ r ∈ l, reqStep c m pot ex r = .ok none
  | [], _, _, hr => nomatch hr
  | x :: xs, h, r, hr => by
    rw [requiredLoop_cons] at h
    split at h
    · cases h
    · next hs =>
      rcases List.mem_cons.1 hr with rfl | hr'
      · exact hs
      · exact requiredLoop_fine h r hr'
    · cases h

/-- the only way the required loop fails: the `expect` of `unroll_args_in_group` on a required group -/
theorem requiredLoop_error {c : Cmd} {m : ArgMap} {pot : List (Id × List Id)} {ex : Bool} {e : EK} : ∀ {l : List Id},
    requiredLoop c m pot ex l = .error e → (∃ s, e = .panic s) ∧ ∃ g ∈ c.groups, argsInGroup c g.id = none
  | [], h => nomatch h
  | r :: rs, h => by
    rw [requiredLoop_cons] at h
    split at h
    · next s hs => cases h; exact ⟨⟨s, rfl⟩, reqStep_error hs⟩
    · exact requiredLoop_error h
    · cases h

theorem requiredLoop_ne_error {c : Cmd} (wg : GroupsOk c) {m : ArgMap} {pot : List (Id × List Id)} {ex : Bool} {e : EK}
    {l : List Id} : requiredLoop c m pot ex l ≠ .error e := fun h => by
  obtain ⟨_, g, hg, hn⟩ := requiredLoop_error h
  have := argsInGroup_isSome wg (findGroup_mem hg)
  rw [hn] at this; cases this

/-- the report and the verdict are two readings of the same loop: what pass 1 appends is absent and exists, the verdict
says whether it appended anything, and the highest index only moves when it did -/
theorem missingPass1_some {c : Cmd} {m : ArgMap} {pot : List (Id × List Id)} {excl : Bool} :
    ∀ (rs acc : List Id) (hi : Nat) {acc' : List Id} {hi' : Nat},
    missingPass1 c m pot excl rs acc hi = some (acc', hi') →
    ∃ ext, acc' = acc ++ ext ∧ requiredLoop c m pot excl rs = .ok (!ext.isEmpty) ∧
      (∀ id ∈ ext, m.checkExplicit id .isPresent = false ∧ ((c.find id).isSome = true ∨ (c.findGroup id).isSome = true)) ∧
      (hi < hi' → ext ≠ [])
  | [], acc, hi, _, _, h => by
    cases h
    exact ⟨[], (List.append_nil _).symm, rfl, fun _ hx => (nomatch hx), fun hlt => absurd hlt (Nat.lt_irrefl _)⟩
  | r :: rs, acc, hi, acc', hi', h => by
    rw [missingPass1_cons] at h
    rw [requiredLoop_cons]
    split at h
    · cases h
    · next hs => rw [hs]; exact missingPass1_some rs acc hi h
    · next id oa hs =>
      rw [hs]
      obtain ⟨ext, he, _, hall, _⟩ := missingPass1_some rs _ _ h
      obtain ⟨rfl, hp, hex⟩ := reqStep_missing hs
      refine ⟨id :: ext, by rw [he, List.append_assoc]; rfl, rfl, fun x hx => ?_, fun _ => List.cons_ne_nil _ _⟩
      rcases List.mem_cons.1 hx with rfl | hx
      · exact ⟨hp, hex⟩
      · exact hall x hx

theorem missingPass1_isSome {c : Cmd} (wg : GroupsOk c) {m : ArgMap} {pot : List (Id × List Id)} {excl : Bool} :
    ∀ (rs acc : List Id) (hi : Nat), (missingPass1 c m pot excl rs acc hi).isSome = true
  | [], _, _ => rfl
  | r :: rs, acc, hi => by
    rw [missingPass1_cons]
    split
    · next hs =>
      obtain ⟨g, hg, hn⟩ := reqStep_error hs
      have := argsInGroup_isSome wg (findGroup_mem hg)
      rw [hn] at this; cases this
    · exact missingPass1_isSome wg rs _ _
    · exact missingPass1_isSome wg rs _ _

theorem conditionallyMissing_absent {m : ArgMap} {a : Arg} (h : conditionallyMissing m a = true) :
    m.checkExplicit a.id .isPresent = false := by
  simp only [conditionallyMissing, Bool.and_eq_true, Bool.not_eq_true'] at h
  exact h.1

/-- pass 2 of the report in closed form: the conditionally missing args in definition order; the highest index only
moves when there is one -/
theorem missingPass2_eq (m : ArgMap) (excl : Bool) : ∀ (as : List Arg) (acc : List Id) (hi : Nat),
    (missingPass2 m excl as acc hi).1 = acc ++ (as.filter fun a => conditionallyMissing m a && !excl).map (·.id) ∧
    (hi < (missingPass2 m excl as acc hi).2 → (as.filter fun a => conditionallyMissing m a && !excl) ≠ [])
  | [], acc, hi => ⟨(List.append_nil _).symm, fun h => absurd h (Nat.lt_irrefl _)⟩
  | a :: as, acc, hi => by
    rw [missingPass2, List.filter_cons]
    split
    · refine ⟨?_, fun _ => List.cons_ne_nil _ _⟩
      rw [(missingPass2_eq m excl as _ _).1, List.append_assoc]; rfl
    · exact missingPass2_eq m excl as acc hi

/-- `missingRequired` unfolded once: what pass 1 found, then the conditionally missing args, then (for display) the absent
positionals below the highest missing index -/
theorem missingRequired_eq_some {c : Cmd} {m : ArgMap} {pot : List (Id × List Id)} {l : List Id} :
    missingRequired c m pot = some l ↔
    ∃ e1 hi1, missingPass1 c m pot (isExclusivePresent c m) (requiredIds c m) [] 0 = some (e1, hi1) ∧
      l = e1 ++ (c.args.filter fun a => conditionallyMissing m a && !isExclusivePresent c m).map (·.id) ++
        (if c.settings.allowMissingPositional then [] else
          (c.positionals.filter fun p => !m.checkExplicit p.id .isPresent &&
            (match p.index with
              | some i => decide (i < (missingPass2 m (isExclusivePresent c m) c.args e1 hi1).2)
              | none => true)).map (·.id)) := by
  unfold missingRequired
  simp only
  cases missingPass1 c m pot (isExclusivePresent c m) (requiredIds c m) [] 0 with
  | none => simp
  | some r =>
    obtain ⟨e1, hi1⟩ := r
    simp only [Option.some.injEq, Prod.mk.injEq, (missingPass2_eq m (isExclusivePresent c m) c.args e1 hi1).1]
    constructor
    · rintro rfl
      exact ⟨e1, hi1, ⟨rfl, rfl⟩, rfl⟩
    · rintro ⟨_, _, ⟨rfl, rfl⟩, rfl⟩
      rfl
end Clap.Validator

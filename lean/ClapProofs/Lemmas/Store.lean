/-
What the reaction to one occurrence does to the parser state `P`, one statement per operation:
removals are `Sublist`s; `start_custom_arg` always succeeds and only replaces the store (`startCustomArg_eq`);
`reactFinish` is `push_arg_values` on that store (`reactFinish_eq`) and `reactCore` is unfolded once (`reactCore_cases`);
every operation up to `reactCore` leaves `P` alone except for the store and a growing index (`P.Stored`);
with a source other than the command line nothing but the entries of the arg and of its groups changes (`sel_*_other`).
-/
import ClapProofs.Lemmas.ArgMap
import ClapProofs.Lemmas.ListFold
namespace Clap
open Parser ArgMap

/-! #### removals -/

theorem foldl_sublist {α : Type} (f : ArgMap → α → ArgMap) (hf : ∀ m x, (f m x).Sublist m) (l : List α) (m : ArgMap) :
    (l.foldl f m).Sublist m :=
  foldl_inv (I := (·.Sublist m)) (fun x _ b hb => (hf b x).trans hb) (.refl m)

theorem dropEmptyGroups_sublist (c : Cmd) (id : Id) (m : ArgMap) : (dropEmptyGroups c id m).Sublist m :=
  foldl_sublist _ (fun m g => by split; exact .refl m; exact remove_sublist g m) _ m

theorem removeOverridden_sublist (c : Cmd) (m : ArgMap) (o : Id) : (removeOverridden c m o).Sublist m := by
  unfold removeOverridden
  split
  · exact (dropEmptyGroups_sublist c o _).trans (remove_sublist o m)
  · exact .refl m

theorem removeOverrides_sublist (c : Cmd) (a : Arg) (m : ArgMap) : (removeOverrides c a m).Sublist m :=
  (foldl_sublist _ (removeOverridden_sublist c) _ _).trans (foldl_sublist _ (removeOverridden_sublist c) _ _)

/-! #### `matcherStart` and the group loop -/

namespace MatchedArg
theorem appendVal_isSome (m : MatchedArg) (v : Bytes) (h : m.rawVals ≠ []) :
    ∃ m', m.appendVal v = some m' ∧ m'.rawVals ≠ [] := by
  unfold appendVal
  cases hr : m.rawVals.reverse with
  | nil => simp at hr; exact absurd hr h
  | cons last before => exact ⟨_, rfl, by simp⟩
theorem appendVal_indices {m m' : MatchedArg} {v : Bytes} (h : m.appendVal v = some m') : m'.indices = m.indices := by
  unfold appendVal at h
  split at h
  · cases h
  · cases h; rfl
end MatchedArg

theorem sel_matcherStart_other (m : ArgMap) {g id : Id} (fresh : MatchedArg) (s : Source) (h : (g == id) = false) :
    (matcherStart m g fresh s).sel id = m.sel id := by
  unfold matcherStart
  split <;> simp [h]

theorem sel_matcherStart_self (m : ArgMap) (g : Id) (fresh : MatchedArg) (s : Source) :
    (matcherStart m g fresh s).sel g =
      (if m.contains g then m.sel g else [(g, fresh)]).map fun p => (p.1, (p.2.setSource s).newValGroup) := by
  unfold matcherStart
  split
  · simp
  · next h => simp [sel_eq_nil.2 (by simpa using h)]

/-- "the entry for `id` exists and has an open value group" -/
def OpenAt (m : ArgMap) (id : Id) : Prop := ∃ ma, m.get id = some ma ∧ ma.rawVals ≠ []

theorem matcherStart_open (m : ArgMap) (id : Id) (fresh : MatchedArg) (s : Source) : OpenAt (matcherStart m id fresh s) id := by
  unfold OpenAt
  rw [get_eq_sel, sel_matcherStart_self]
  split
  · next h =>
    rw [contains_iff_get, get_eq_sel] at h
    cases hs : m.sel id with
    | nil => simp [hs] at h
    | cons q qs => exact ⟨_, rfl, by simp [MatchedArg.newValGroup]⟩
  · exact ⟨_, rfl, by simp [MatchedArg.newValGroup]⟩

theorem matcherStart_preserves (m : ArgMap) (g : Id) (fresh : MatchedArg) (s : Source) (id : Id)
    (h : OpenAt m id) : OpenAt (matcherStart m g fresh s) id := by
  by_cases hg : g = id
  · exact hg ▸ matcherStart_open m g fresh s
  · unfold OpenAt at h ⊢
    rwa [get_eq_sel, sel_matcherStart_other _ _ _ (by simpa using hg), ← get_eq_sel]

theorem update_const_preserves (m : ArgMap) (g : Id) (ma' : MatchedArg) (hne' : ma'.rawVals ≠ []) (id : Id)
    (h : OpenAt m id) : OpenAt (m.update g fun _ => ma') id := by
  obtain ⟨ma, hget, hne⟩ := h
  unfold OpenAt
  rw [get_update, hget]
  split
  · exact ⟨ma', rfl, hne'⟩
  · exact ⟨ma, rfl, hne⟩

/-- one step of the group loop: the flag is kept (`add_val_to`'s `expect` is dead), only the group's entry changes,
and what was open stays open -/
theorem groupStep_spec (a : Arg) (s : Source) (acc : ArgMap × Bool) (g : Id) :
    (groupStep a s acc g).2 = acc.2 ∧ (∀ id, (g == id) = false → (groupStep a s acc g).1.sel id = acc.1.sel id) ∧
    ∀ id, OpenAt acc.1 id → OpenAt (groupStep a s acc g).1 id := by
  obtain ⟨mg, hget, hne⟩ := matcherStart_open acc.1 g { isGroup := true } s
  obtain ⟨ma', hap, hne'⟩ := MatchedArg.appendVal_isSome mg a.id hne
  simp only [groupStep, hget, Option.bind_some, hap, true_and]
  exact ⟨fun id h => by rw [sel_update_other _ _ h, sel_matcherStart_other _ _ _ h],
    fun id h => update_const_preserves _ g ma' hne' id (matcherStart_preserves _ g _ s id h)⟩

theorem groupFold_spec (a : Arg) (s : Source) : ∀ (gs : List Id) (acc : ArgMap × Bool),
    (gs.foldl (groupStep a s) acc).2 = acc.2 ∧
    (∀ id, (∀ g ∈ gs, (g == id) = false) → (gs.foldl (groupStep a s) acc).1.sel id = acc.1.sel id) ∧
    ∀ id, OpenAt acc.1 id → OpenAt (gs.foldl (groupStep a s) acc).1 id
  | [], _ => ⟨rfl, fun _ _ => rfl, fun _ h => h⟩
  | g :: gs, acc => by
    obtain ⟨i1, i2, i3⟩ := groupFold_spec a s gs (groupStep a s acc g)
    obtain ⟨s1, s2, s3⟩ := groupStep_spec a s acc g
    exact ⟨i1.trans s1, fun id h => (i2 id fun g' hg' => h g' (by simp [hg'])).trans (s2 id (h g (by simp))),
      fun id h => i3 id (s3 id h)⟩

/-! #### `start_custom_arg` -/

/-- the store once `start_custom_arg` has opened the arg's own entry, before its group loop -/
def startEntry (c : Cmd) (a : Arg) (s : Source) (m : ArgMap) : ArgMap :=
  matcherStart (if s == .cmdline then removeOverrides c a m else m) a.id { ignoreCase := a.ignoreCase } s

/-- the store after `start_custom_arg` -/
def startArgs (c : Cmd) (a : Arg) (s : Source) (m : ArgMap) : ArgMap :=
  if s.isExplicit then ((c.groupsForArg a.id).foldl (groupStep a s) (startEntry c a s m, true)).1 else startEntry c a s m

/-- `start_custom_arg` never fails and touches nothing but the store -/
theorem startCustomArg_eq (c : Cmd) (a : Arg) (s : Source) (p : P) :
    startCustomArg c a s p = ({ p with args := startArgs c a s p.args }, .ok ()) := by
  unfold startCustomArg startArgs startEntry
  cases he : s.isExplicit
  · rfl
  · simp only [Bool.not_true, Bool.false_eq_true, ↓reduceIte, (groupFold_spec a s _ _).1]

/-- the arg's own entries after `start_custom_arg`, given that no group carries the arg's id -/
theorem sel_startArgs_self (c : Cmd) (a : Arg) (s : Source) (m : ArgMap)
    (hng : ∀ g ∈ c.groupsForArg a.id, (g == a.id) = false) :
    (startArgs c a s m).sel a.id = (startEntry c a s m).sel a.id := by
  unfold startArgs
  split
  · exact (groupFold_spec a s _ _).2.1 a.id hng
  · rfl

theorem sel_startArgs_other (c : Cmd) (a : Arg) (s : Source) (m : ArgMap) (id : Id) (hs : (s == .cmdline) = false)
    (h : (a.id == id) = false) (hg : ∀ g ∈ c.groupsForArg a.id, (g == id) = false) :
    (startArgs c a s m).sel id = m.sel id := by
  have h0 : (startEntry c a s m).sel id = m.sel id := by
    simp only [startEntry, hs, Bool.false_eq_true, ↓reduceIte, sel_matcherStart_other _ _ _ h]
  unfold startArgs
  split
  · rw [(groupFold_spec a s _ _).2.1 id hg, h0]
  · exact h0

/-- after `start_custom_arg` the arg's entry has an open value group -/
theorem startArgs_open (c : Cmd) (a : Arg) (s : Source) (m : ArgMap) : OpenAt (startArgs c a s m) a.id := by
  unfold startArgs
  split
  · exact (groupFold_spec a s _ _).2.2 a.id (matcherStart_open ..)
  · exact matcherStart_open ..

/-! #### what stays of `P` -/

/-- `q` is `p` with another store and a later index: all that `reactCore` and its parts do to `P` -/
structure P.Stored (p q : P) : Prop where
  eq : q = { p with args := q.args, curIdx := q.curIdx }
  le : p.curIdx ≤ q.curIdx

namespace P.Stored
theorem refl (p : P) : p.Stored p := ⟨rfl, Nat.le_refl _⟩
theorem trans {p q r : P} (h1 : p.Stored q) (h2 : q.Stored r) : p.Stored r :=
  ⟨by rw [h2.eq, h1.eq], Nat.le_trans h1.le h2.le⟩
theorem args (p : P) (m : ArgMap) : p.Stored { p with args := m } := ⟨rfl, Nat.le_refl _⟩
theorem pending {p q : P} (h : p.Stored q) : q.pending = p.pending := by rw [h.eq]
theorem flagSubSkip {p q : P} (h : p.Stored q) : q.flagSubSkip = p.flagSubSkip := by rw [h.eq]
theorem sub {p q : P} (h : p.Stored q) : q.sub = p.sub := by rw [h.eq]
end P.Stored

/-- `push_arg_values` rewrites the arg's own entry only -/
theorem pushArgValues_spec (a : Arg) : ∀ (vals : List Bytes) (p : P),
    p.Stored (pushArgValues a vals p).1 ∧ (pushArgValues a vals p).1.args.ids = p.args.ids ∧
    ∀ id, (a.id == id) = false → (pushArgValues a vals p).1.args.sel id = p.args.sel id := by
  intro vals
  induction vals with
  | nil => exact fun p => ⟨.refl p, rfl, fun _ _ => rfl⟩
  | cons raw rest ih =>
    intro p
    have h1 : p.Stored { p with curIdx := p.curIdx + 1 } := ⟨rfl, Nat.le_succ _⟩
    rw [pushArgValues]
    simp only
    split
    · exact ⟨h1, rfl, fun _ _ => rfl⟩
    · split
      · exact ⟨h1, rfl, fun _ _ => rfl⟩
      · next ma' _ =>
        obtain ⟨r1, r2, r3⟩ := ih
          { p with curIdx := p.curIdx + 1, args := p.args.update a.id fun _ => ma'.pushIndex (p.curIdx + 1) }
        exact ⟨.trans ⟨rfl, Nat.le_succ _⟩ r1, by simp only [r2, ids_update], fun id h => by simp only [r3 id h, sel_update_other _ _ h]⟩

/-! #### `reactFinish`, `reactReplace`, `reactCore`: the state they leave -/

/-- `reactFinish` is `push_arg_values` on the store that `start_custom_arg` leaves -/
theorem reactFinish_eq (c : Cmd) (a : Arg) (s : Source) (p : P) (vs : List Bytes) :
    reactFinish c a s p vs =
      ((pushArgValues a vs { p with args := startArgs c a s p.args }).1,
       (pushArgValues a vs { p with args := startArgs c a s p.args }).2.map fun _ => .valuesDone) := by
  rw [reactFinish, startCustomArg_eq]
  simp only
  cases pushArgValues a vs { p with args := startArgs c a s p.args } with
  | mk p2 r => cases r <;> rfl

theorem reactFinish_fst (c : Cmd) (a : Arg) (s : Source) (p : P) (vs : List Bytes) :
    (reactFinish c a s p vs).1 = (pushArgValues a vs { p with args := startArgs c a s p.args }).1 := by
  rw [reactFinish_eq]

/-- with an open entry `push_arg_values` fails only where a value parser rejects one of the values -/
theorem pushArgValues_error (a : Arg) : ∀ (vals : List Bytes) (p : P), OpenAt p.args a.id →
    ∀ e, (pushArgValues a vals p).2 = .error e → ∃ raw ∈ vals, parseValue a raw = .error e := by
  intro vals
  induction vals with
  | nil =>
    intro p _ e h
    cases h
  | cons raw rest ih =>
    intro p ⟨ma, hget, hne⟩ e h
    rw [pushArgValues] at h
    simp only at h
    cases hpv : parseValue a raw with
    | error e' =>
      rw [hpv] at h
      cases h
      exact ⟨raw, List.mem_cons_self, hpv⟩
    | ok u =>
      obtain ⟨ma', hap, hne'⟩ := MatchedArg.appendVal_isSome ma raw hne
      have hget' : ({ p with curIdx := p.curIdx + 1 } : P).args.get a.id = some ma := hget
      simp only [hpv, hget', Option.bind_some, hap] at h
      obtain ⟨r, hr, hp⟩ := ih _ ⟨ma'.pushIndex (p.curIdx + 1), by rw [get_update_self, hget]; rfl, hne'⟩ e h
      exact ⟨r, List.mem_cons_of_mem _ hr, hp⟩

theorem reactFinish_error (c : Cmd) (a : Arg) (s : Source) (p : P) (vs : List Bytes) (e : EK)
    (h : (reactFinish c a s p vs).2 = .error e) : ∃ raw ∈ vs, parseValue a raw = .error e := by
  rw [reactFinish_eq] at h
  refine pushArgValues_error a vs { p with args := startArgs c a s p.args } (startArgs_open c a s p.args) e ?_
  cases hp : (pushArgValues a vs { p with args := startArgs c a s p.args }).2 <;> rw [hp] at h <;> cases h
  rfl

/-- **the three ways `reactCore` can go**: it stops before touching anything (the count check, help, version);
it removes the arg's entry and reports the conflict; or it is `reactFinish` - on `p` or on `p` with the index
bumped, with or without the arg's old entry removed first. Every fact about `reactCore` is this plus the fact about
`reactFinish`. -/
theorem reactCore_cases (c : Cmd) (ident : Option Ident) (s : Source) (a : Arg) (vals : List Bytes) (t : Option Nat) (p : P) :
    (∃ e, reactCore c ident s a vals t p = (p, .error e) ∧
      ((s = .cmdline ∧ verifyNumArgs c a vals.length = .error e) ∨
       (e = .displayHelp ∧ (a.getAction = .help ∨ a.getAction = .helpShort ∨ a.getAction = .helpLong)) ∨
       (e = .displayVersion ∧ a.getAction = .version))) ∨
    ∃ p0 vs, (p0 = p ∨ p0 = bumpIdx s ident p) ∧
      ((reactCore c ident s a vals t p = ({ p0 with args := ArgMap.remove a.id p0.args }, .error .argumentConflict) ∧
          (a.getAction = .set ∨ a.getAction = .setTrue ∨ a.getAction = .setFalse) ∧
          (c.settings.argsOverrideSelf || a.overrides.contains a.id) = false) ∨
       reactCore c ident s a vals t p = reactFinish c a s p0 vs ∨
       reactCore c ident s a vals t p = reactFinish c a s { p0 with args := ArgMap.remove a.id p0.args } vs) := by
  have rep : ∀ p0 vs, (reactReplace c a s p0 vs = ({ p0 with args := ArgMap.remove a.id p0.args }, .error .argumentConflict) ∧
        (c.settings.argsOverrideSelf || a.overrides.contains a.id) = false) ∨
      reactReplace c a s p0 vs = reactFinish c a s { p0 with args := ArgMap.remove a.id p0.args } vs := by
    intro p0 vs
    unfold reactReplace
    simp only
    split
    · next hc =>
      rw [Bool.and_eq_true, Bool.not_eq_true'] at hc
      exact .inl ⟨rfl, hc.2⟩
    · exact .inr rfl
  unfold reactCore
  split
  · next e hv =>
    refine .inl ⟨e, rfl, .inl ?_⟩
    split at hv
    · next hs => exact ⟨eq_of_beq hs, hv⟩
    · cases hv
  · simp only
    split
    · next ha => exact .inr ⟨_, _, .inr rfl, (rep _ _).elim (fun h => .inl ⟨h.1, .inl ha, h.2⟩) (.inr ∘ .inr)⟩
    · exact .inr ⟨_, _, .inr rfl, .inr (.inl rfl)⟩
    · next ha => exact .inr ⟨_, _, .inl rfl, (rep _ _).elim (fun h => .inl ⟨h.1, .inr (.inl ha), h.2⟩) (.inr ∘ .inr)⟩
    · next ha => exact .inr ⟨_, _, .inl rfl, (rep _ _).elim (fun h => .inl ⟨h.1, .inr (.inr ha), h.2⟩) (.inr ∘ .inr)⟩
    · exact .inr ⟨_, _, .inl rfl, .inr (.inr rfl)⟩
    · next ha => exact .inl ⟨_, rfl, .inr (.inl ⟨rfl, .inl ha⟩)⟩
    · next ha => exact .inl ⟨_, rfl, .inr (.inl ⟨rfl, .inr (.inl ha)⟩)⟩
    · next ha => exact .inl ⟨_, rfl, .inr (.inl ⟨rfl, .inr (.inr ha)⟩)⟩
    · next ha => exact .inl ⟨_, rfl, .inr (.inr ⟨rfl, ha⟩)⟩

theorem bumpIdx_stored (s : Source) (ident : Option Ident) (p : P) : p.Stored (bumpIdx s ident p) := by
  unfold bumpIdx
  split
  · exact ⟨rfl, Nat.le_succ _⟩
  · exact .refl p

theorem reactFinish_stored (c : Cmd) (a : Arg) (s : Source) (p : P) (vs : List Bytes) : p.Stored (reactFinish c a s p vs).1 := by
  rw [reactFinish_fst]
  exact (P.Stored.args p _).trans (pushArgValues_spec a vs _).1

/-- **`reactCore` changes the store and advances the index, nothing else** -/
theorem reactCore_stored (c : Cmd) (ident : Option Ident) (s : Source) (a : Arg) (vals : List Bytes) (t : Option Nat) (p : P) :
    p.Stored (reactCore c ident s a vals t p).1 := by
  rcases reactCore_cases c ident s a vals t p with ⟨e, h, _⟩ | ⟨p0, vs, hp0, h⟩
  · rw [h]; exact .refl p
  · have h0 : p.Stored p0 := by
      rcases hp0 with rfl | rfl
      · exact .refl _
      · exact bumpIdx_stored ..
    rcases h with ⟨h, _⟩ | h | h <;> rw [h]
    · exact h0.trans (.args ..)
    · exact h0.trans (reactFinish_stored ..)
    · exact h0.trans ((P.Stored.args ..).trans (reactFinish_stored ..))

/-- `resolve_pending` clears the pending buffer and, for the rest, does what `reactCore` does -/
theorem resolvePending_stored (c : Cmd) (p : P) : P.Stored { p with pending := none } (resolvePending c p).1 := by
  unfold resolvePending
  split
  · next h => rw [← h]; exact .refl p
  · split
    · exact .refl _
    · exact reactCore_stored ..

theorem react_stored (c : Cmd) (ident : Option Ident) (s : Source) (a : Arg) (vals : List Bytes) (t : Option Nat) (p : P) :
    P.Stored { p with pending := none } (react c ident s a vals t p).1 := by
  have h := resolvePending_stored c p
  unfold react
  split
  · next p1 e he => rwa [he] at h
  · next p1 he => rw [he] at h; exact h.trans (reactCore_stored ..)

theorem sel_reactFinish_other (c : Cmd) (a : Arg) (s : Source) (p : P) (vs : List Bytes) (id : Id)
    (hs : (s == .cmdline) = false) (h : (a.id == id) = false) (hg : ∀ g ∈ c.groupsForArg a.id, (g == id) = false) :
    (reactFinish c a s p vs).1.args.sel id = p.args.sel id := by
  rw [reactFinish_fst, (pushArgValues_spec a vs _).2.2 id h]
  exact sel_startArgs_other c a s p.args id hs h hg

/-- **a value from the environment or a default touches only the entries of the arg and of its groups** -/
theorem sel_reactCore_other (c : Cmd) (ident : Option Ident) (s : Source) (a : Arg) (vals : List Bytes) (t : Option Nat)
    (p : P) (id : Id) (hs : (s == .cmdline) = false) (h : (a.id == id) = false)
    (hg : ∀ g ∈ c.groupsForArg a.id, (g == id) = false) :
    (reactCore c ident s a vals t p).1.args.sel id = p.args.sel id := by
  rcases reactCore_cases c ident s a vals t p with ⟨e, h', _⟩ | ⟨p0, vs, hp0, h'⟩
  · rw [h']
  · have h0 : p0.args = p.args := by
      rcases hp0 with rfl | rfl
      · rfl
      · unfold bumpIdx; split <;> rfl
    rcases h' with ⟨h', _⟩ | h' | h' <;> rw [h', ← h0]
    · exact sel_remove_other h _
    · exact sel_reactFinish_other c a s p0 vs id hs h hg
    · exact (sel_reactFinish_other c a s _ vs id hs h hg).trans (sel_remove_other h _)

end Clap

/-
What each of the three passes of `write_args` / `get_required_usage_from` (`ClapModel/Usage.lean`: `groupPass`, `argPass`,
`posPass`) returns, said once and exactly: the statements about the usage line (C12Usage, C12UsageSlots) and about the
strings of a `MissingRequiredArgument` error (C10Missing) are read off these.
-/
import ClapModel.Usage
import ClapProofs.Lemmas.ListFold
namespace Clap.C12U
open Clap Usage Validator

/-! ### slots: read through `getSlot`, a `List (Option Bytes)` is a function `Nat → Option Bytes` and `setSlot` its update -/

theorem getSlot_setSlot (v : List (Option Bytes)) (i : Nat) (x : Option Bytes) (j : Nat) :
    getSlot (setSlot v i x) j = if i = j then x else getSlot v j := by
  fun_induction setSlot v i x generalizing j with
  | case1 x => cases j <;> rfl
  | case2 i x ih => cases j with
    | zero => rfl
    | succ j => simp only [Nat.succ_eq_add_one, Nat.add_right_cancel_iff]; exact ih j
  | case3 v x => cases j <;> rfl
  | case4 y v i x ih => cases j with
    | zero => rfl
    | succ j => simp only [Nat.succ_eq_add_one, Nat.add_right_cancel_iff]; exact ih j

theorem mem_iff_getSlot {v : List (Option Bytes)} {s : Bytes} : some s ∈ v ↔ ∃ i, getSlot v i = some s := by
  rw [List.mem_iff_getElem?]
  refine exists_congr fun i => ?_
  unfold getSlot
  cases v[i]? <;> simp

/-! ### sets -/

theorem mem_setInsert {s : List Bytes} {x y : Bytes} : y ∈ setInsert s x ↔ y ∈ s ∨ y = x :=
  (mem_foldl_insertNew [x] s y).trans (or_congr_right List.mem_singleton)

theorem mem_setExtend {xs s : List Bytes} {y : Bytes} : y ∈ setExtend s xs ↔ y ∈ s ∨ y ∈ xs :=
  mem_foldl_insertNew xs s y

/-! ### `groupPass` -/

/-- the request `g` is a group that `groupPass` writes: `l` its unrolled members, `s` its display -/
def Writes (c : Cmd) (u : UInfo) (skip : List Id → Bool) (g : Id) (l : List Id) (s : Bytes) : Prop :=
  (c.findGroup g).isSome = true ∧ argsInGroup c g = some l ∧ formatGroup c u g = some s ∧ skip l = false

theorem exists_mem_cons_iff {α : Type} {p : α → Prop} {a : α} {l : List α} :
    (∃ x ∈ a :: l, p x) ↔ p a ∨ ∃ x ∈ l, p x := by simp

/-- **what `groupPass` returns**: the sets it was given, plus display and members of every requested group it does not skip -/
theorem groupPass_spec {c : Cmd} {u : UInfo} {skip : List Id → Bool} {reqs : List Id} {gs : List Bytes} {ms : List Id}
    {gs' : List Bytes} {ms' : List Id} (h : groupPass c u skip reqs gs ms = some (gs', ms')) :
    (∀ x, x ∈ gs' ↔ x ∈ gs ∨ ∃ g ∈ reqs, ∃ l, Writes c u skip g l x) ∧
    (∀ x, x ∈ ms' ↔ x ∈ ms ∨ ∃ g ∈ reqs, ∃ l s, Writes c u skip g l s ∧ x ∈ l) := by
  fun_induction groupPass c u skip reqs gs ms with
  | case1 gs ms =>
    cases h
    simp only [List.not_mem_nil, false_and, exists_false, or_false, implies_true, and_self]
  | case2 req rest gs ms hg members elem he hm hskip ih =>
    -- a group that is skipped
    have no : ∀ l s, ¬ Writes c u skip req l s := fun l s w => by
      cases w.2.1.symm.trans hm; exact Bool.noConfusion (hskip.symm.trans w.2.2.2)
    simp only [exists_mem_cons_iff, no, exists_false, false_and, false_or]
    exact ih h
  | case3 req rest gs ms hg members elem he hm hskip ih =>
    -- a group that is written
    have yes : ∀ {l s}, Writes c u skip req l s ↔ l = members ∧ s = elem :=
      ⟨fun w => ⟨Option.some.inj (hm.symm.trans w.2.1).symm, Option.some.inj (he.symm.trans w.2.2.1).symm⟩,
       fun ⟨e1, e2⟩ => ⟨hg, e1 ▸ hm, e2 ▸ he, e1 ▸ Bool.eq_false_iff.mpr hskip⟩⟩
    obtain ⟨i1, i2⟩ := ih h
    simp only [exists_mem_cons_iff, yes, and_assoc, exists_and_left, exists_eq_left, ← or_assoc]
    exact ⟨fun x => by rw [i1, mem_setInsert], fun x => by rw [i2, mem_setExtend]⟩
  | case4 => cases h
  | case5 req rest gs ms hg hf ih =>
    have no : ∀ l s, ¬ Writes c u skip req l s := fun l s w => hg w.1
    simp only [exists_mem_cons_iff, no, exists_false, false_and, false_or]
    exact ih h
  | case6 => cases h

/-- a member of a written group is covered by a written group string -/
theorem covered {c : Cmd} {u : UInfo} {reqs : List Id} {groups : List Bytes} {members : List Id}
    (hg : groupPass c u (fun _ => false) reqs [] [] = some (groups, members)) {x : Id} (hx : x ∈ members) :
    ∃ g ∈ reqs, ∃ l s, argsInGroup c g = some l ∧ x ∈ l ∧ formatGroup c u g = some s ∧ s ∈ groups := by
  obtain ⟨g1, g2⟩ := groupPass_spec hg
  obtain ⟨g, hgr, l, s, w, hxl⟩ := ((g2 x).mp hx).resolve_left (nomatch ·)
  exact ⟨g, hgr, l, s, w.2.1, hxl, w.2.2.1, (g1 s).mpr (Or.inr ⟨g, hgr, l, w⟩)⟩

/-! ### `argPass` -/

/-- the request list makes `argPass` write the arg `a`: it is asked for, outside the written groups, and not skipped -/
def WritesArg (c : Cmd) (members : List Id) (skip : Arg → Bool) (reqs : List Id) (a : Arg) : Prop :=
  ∃ q ∈ reqs, c.find q = some a ∧ (members.contains a.id || skip a) = false

theorem WritesArg.tail {c : Cmd} {members : List Id} {skip : Arg → Bool} {q : Id} {reqs : List Id} {a : Arg}
    (w : WritesArg c members skip reqs a) : WritesArg c members skip (q :: reqs) a :=
  let ⟨q', hq', h⟩ := w; ⟨q', List.mem_cons_of_mem _ hq', h⟩

/-- the head request adds at most the arg it finds, and only if that is not skipped -/
theorem WritesArg.of_cons {c : Cmd} {members : List Id} {skip : Arg → Bool} {q : Id} {reqs : List Id} {a : Arg}
    (w : WritesArg c members skip (q :: reqs) a) :
    (c.find q = some a ∧ (members.contains a.id || skip a) = false) ∨ WritesArg c members skip reqs a := by
  obtain ⟨q', hq', h⟩ := w
  rcases List.mem_cons.mp hq' with rfl | hq'
  · exact Or.inl h
  · exact Or.inr ⟨q', hq', h⟩

/-- **what `argPass` returns**: the options are those it was given plus the display of every written arg without index;
slot `i` holds the display of a written arg of index `i` if there is one (the last one), and is untouched otherwise -/
theorem argPass_spec {c : Cmd} {u : UInfo} {members : List Id} {r : Bool} {skip : Arg → Bool} {reqs : List Id}
    {opts : List Bytes} {pos : List (Option Bytes)} {opts' : List Bytes} {pos' : List (Option Bytes)}
    (h : argPass c u members r skip reqs opts pos = some (opts', pos')) :
    (∀ x, x ∈ opts' ↔ x ∈ opts ∨ ∃ a, WritesArg c members skip reqs a ∧ a.index = none ∧ x = stylized u a r) ∧
    (∀ i, (∃ a, WritesArg c members skip reqs a ∧ a.index = some i ∧ getSlot pos' i = some (stylized u a r)) ∨
          ((∀ a, WritesArg c members skip reqs a → a.index ≠ some i) ∧ getSlot pos' i = getSlot pos i)) := by
  -- what the head request adds when it finds `a0`: nothing but `a0`, and that only if `a0` is not skipped
  have head : ∀ {req rest a0 a}, c.find req = some a0 → WritesArg c members skip (req :: rest) a →
      (a0 = a ∧ (members.contains a0.id || skip a0) = false) ∨ WritesArg c members skip rest a := fun hf w =>
    w.of_cons.imp_left fun ⟨e, hn⟩ => by cases hf.symm.trans e; exact ⟨rfl, hn⟩
  fun_induction argPass c u members r skip reqs opts pos with
  | case1 opts pos =>
    cases h
    have no : ∀ a, ¬ WritesArg c members skip [] a := fun a ⟨_, hq, _⟩ => nomatch hq
    exact ⟨fun x => ⟨Or.inl, fun h => h.resolve_right fun ⟨a, w, _⟩ => no a w⟩, fun i => Or.inr ⟨fun a w => (no a w).elim, rfl⟩⟩
  | case2 req rest opts pos a0 hf hskip ih =>
    -- the request finds a skipped arg: the same args are written as for `rest`
    have same : ∀ a, WritesArg c members skip (req :: rest) a ↔ WritesArg c members skip rest a := fun a =>
      ⟨fun w => (head hf w).resolve_left fun e => Bool.noConfusion (hskip.symm.trans e.2), .tail⟩
    simp only [same]
    exact ih h
  | case3 req rest opts pos a0 hf hskip s i0 hidx ih =>
    -- a positional: written into its slot
    obtain ⟨i1, i2⟩ := ih h
    refine ⟨fun x => (i1 x).trans (or_congr_right ⟨fun ⟨a, w, e⟩ => ⟨a, w.tail, e⟩, fun ⟨a, w, e⟩ => ⟨a, ?_, e⟩⟩), fun i => ?_⟩
    · exact (head hf w).resolve_left fun e' => by rw [← e'.1, hidx] at e; cases e.1
    · rcases i2 i with ⟨a, w, e⟩ | ⟨hno, hs⟩
      · exact Or.inl ⟨a, w.tail, e⟩
      · rw [getSlot_setSlot] at hs
        by_cases hi : i0 = i
        · exact Or.inl ⟨a0, ⟨req, List.mem_cons_self, hf, Bool.eq_false_iff.mpr hskip⟩, hi ▸ hidx, by rw [hs, if_pos hi]⟩
        · rw [if_neg hi] at hs
          refine Or.inr ⟨fun a w => (head hf w).elim (fun e' => ?_) (hno a), hs⟩
          rw [← e'.1, hidx]
          exact fun e => hi (Option.some.inj e)
  | case4 req rest opts pos a0 hf hskip s hidx ih =>
    -- an option: inserted
    obtain ⟨i1, i2⟩ := ih h
    refine ⟨fun x => ?_, fun i => (i2 i).imp (fun ⟨a, w, e⟩ => ⟨a, w.tail, e⟩) fun ⟨hno, hs⟩ => ⟨fun a w => ?_, hs⟩⟩
    · rw [i1, mem_setInsert, or_assoc]
      refine or_congr_right ⟨?_, ?_⟩
      · rintro (rfl | ⟨a, w, e⟩)
        · exact ⟨a0, ⟨req, List.mem_cons_self, hf, Bool.eq_false_iff.mpr hskip⟩, hidx, rfl⟩
        · exact ⟨a, w.tail, e⟩
      · rintro ⟨a, w, e⟩
        rcases head hf w with ⟨rfl, _⟩ | w
        · exact Or.inl e.2
        · exact Or.inr ⟨a, w, e⟩
    · exact (head hf w).elim (fun e' => by rw [← e'.1, hidx]; exact nofun) (hno a)
  | case5 req rest opts pos hf hg ih =>
    have same : ∀ a, WritesArg c members skip (req :: rest) a ↔ WritesArg c members skip rest a := fun a =>
      ⟨fun w => w.of_cons.resolve_left fun e => (nomatch hf.symm.trans e.1), .tail⟩
    simp only [same]
    exact ih h
  | case6 => cases h

/-! ### `posPass` -/

/-- what `posPass` puts into the slot of a visible positional `p` when the slot holds `cur` -/
def posNew (u : UInfo) (fo : Bool) (p : Arg) (cur : Option Bytes) : Option Bytes :=
  if p.last && fo then none else
    match cur with
    | some s => if p.last then some ([45, 45, 32] ++ s) else some s
    | none => if p.last then some ([91, 45, 45, 32] ++ stylized u p true ++ [93]) else some (stylized u p false)

/-- `posPass` looks at `p` for slot `i` -/
def looksAt (members : List Id) (i : Nat) (p : Arg) : Bool := !(p.hide || members.contains p.id) && p.index == some i

/-- **what `posPass` returns**, slot by slot: the slot rewritten by each visible positional of that index, in order -/
theorem posPass_spec {u : UInfo} {members : List Id} {fo : Bool} {ps : List Arg} {pos pos' : List (Option Bytes)}
    (h : posPass u members fo ps pos = some pos') (i : Nat) :
    getSlot pos' i = ((ps.filter (looksAt members i)).foldl (fun cur p => posNew u fo p cur) (getSlot pos i)) := by
  fun_induction posPass u members fo ps pos with
  | case1 pos => cases h; rfl
  | case2 p rest pos hskip ih =>
    rw [List.filter_cons_of_neg (by rw [looksAt, hskip]; exact Bool.false_ne_true)]; exact ih h
  | case3 => cases h
  | case4 p rest pos hskip i0 hidx cur new new' ih =>
    rw [ih h, getSlot_setSlot]
    by_cases hi : i0 = i
    · subst hi; rw [List.filter_cons_of_pos (by simpa [looksAt, hidx] using hskip), if_pos rfl]; rfl
    · rw [List.filter_cons_of_neg (by simp [looksAt, hidx, hi]), if_neg hi]

theorem posNew_keeps {u : UInfo} {fo : Bool} {p : Arg} (hl : p.last = false) (s : Bytes) : posNew u fo p (some s) = some s := by
  simp [posNew, hl]

theorem posNew_isSome {u : UInfo} {p : Arg} (cur : Option Bytes) : (posNew u false p cur).isSome = true := by
  unfold posNew; cases cur <;> cases p.last <;> rfl

/-! ### `write_args` -/

/-- `argParts` is the three passes in a row -/
theorem argParts_some {c : Cmd} {u : UInfo} {required incls : List Id} {fo : Bool} {opts groups : List Bytes}
    {pos : List (Option Bytes)} (h : argParts c u required incls fo = some (opts, groups, pos)) :
    ∃ members pos0,
      groupPass c u (fun _ => false) (unrolledReqs c required relevantStatic ++ incls) [] [] = some (groups, members) ∧
      argPass c u members (!fo) (fun _ => false) (unrolledReqs c required relevantStatic ++ incls) [] [] = some (opts, pos0) ∧
      posPass u members fo c.positionals pos0 = some pos := by
  unfold argParts at h
  simp only at h
  split at h
  · cases h
  · next groups0 members hg =>
    split at h
    · cases h
    · next opts0 pos0 ha =>
      split at h
      · cases h
      · next pos1 hp => cases h; exact ⟨members, pos0, hg, ha, hp⟩

end Clap.C12U

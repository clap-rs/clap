import ClapModel
import ClapProofs.Lemmas.Wrap
namespace Clap.TextWrap

/-- printable single-column, single-byte text: no control characters, the only whitespace is the space -/
def Plain (cw : Char → Nat) (s : Str) : Prop :=
  ∀ c ∈ s, cw c = 1 ∧ isAsciiControl c = false ∧ utf8Len c = 1 ∧ (isWs c = true → c = ' ')

theorem Plain.cons {cw : Char → Nat} {c : Char} {s : Str} (h : Plain cw (c :: s)) : Plain cw s :=
  fun x hx => h x (List.mem_cons_of_mem _ hx)

theorem byteLen_plain (cw : Char → Nat) (s : Str) (h : Plain cw s) : byteLen s = s.length := by
  induction s with
  | nil => rfl
  | cons c r ih =>
    have hc := h c List.mem_cons_self
    have := ih h.cons
    simp only [byteLen, List.map_cons, List.sum_cons, hc.2.2.1, List.length_cons] at this ⊢
    omega

/-- lines of the accumulator (newest first; every line newest element first); `['\n']` is the break marker -/
def linesOf : List Str → List (List Str)
  | [] => [[]]
  | e :: r =>
    if e == ['\n'] then [] :: linesOf r
    else match linesOf r with
      | l :: ls => (e :: l) :: ls
      | [] => [[e]]

theorem linesOf_ne_nil (acc : List Str) : linesOf acc ≠ [] := by
  cases acc with
  | nil => simp [linesOf]
  | cons e r =>
    simp only [linesOf]
    split
    · simp
    · split <;> simp

/-- length of a line's text -/
def lineLen (l : List Str) : Nat := (l.map List.length).sum

/-- … with the trailing spaces of its last (newest) element removed -/
def lineTrimLen : List Str → Nat
  | [] => 0
  | e :: older => lineLen older + (trimSp e).length

/-- a line is fine if it fits, or if it is no longer than the hanging indent plus one (trimmed) word -/
def Good (hard carryLen : Nat) (words : List Str) (l : List Str) : Prop :=
  lineTrimLen l ≤ hard ∨ ∃ w ∈ words, lineTrimLen l ≤ carryLen + (trimSp w).length

def cur (acc : List Str) : List Str := (linesOf acc).headD []
def fin (acc : List Str) : List (List Str) := (linesOf acc).tail

theorem linesOf_eq (acc : List Str) : linesOf acc = cur acc :: fin acc := by
  unfold cur fin
  cases h : linesOf acc with
  | nil => exact absurd h (linesOf_ne_nil acc)
  | cons l ls => rfl

theorem linesOf_cons_word {w : Str} (h : (w == ['\n']) = false) (acc : List Str) :
    linesOf (w :: acc) = (w :: cur acc) :: fin acc := by
  simp only [linesOf, h, Bool.false_eq_true, ↓reduceIte]
  rw [linesOf_eq acc]

theorem linesOf_cons_marker (acc : List Str) : linesOf (['\n'] :: acc) = [] :: cur acc :: fin acc := by
  simp only [linesOf, beq_self_eq_true, ↓reduceIte]
  rw [linesOf_eq acc]

theorem cur_cons_word {w : Str} (h : (w == ['\n']) = false) (acc : List Str) : cur (w :: acc) = w :: cur acc := by
  simp [cur, linesOf_cons_word h acc]
theorem fin_cons_word {w : Str} (h : (w == ['\n']) = false) (acc : List Str) : fin (w :: acc) = fin acc := by
  simp [fin, linesOf_cons_word h acc]
theorem cur_cons_marker (acc : List Str) : cur (['\n'] :: acc) = [] := by simp [cur, linesOf_cons_marker]
theorem fin_cons_marker (acc : List Str) : fin (['\n'] :: acc) = cur acc :: fin acc := by simp [fin, linesOf_cons_marker]

theorem forall_linesOf {acc : List Str} {G : List Str → Prop} : (∀ l ∈ linesOf acc, G l) ↔ G (cur acc) ∧ ∀ l ∈ fin acc, G l := by
  rw [linesOf_eq, List.forall_mem_cons]

theorem linesOf_append_marker (xs acc : List Str) (h : ∀ x ∈ xs, (x == ['\n']) = false) :
    cur (xs ++ ['\n'] :: acc) = xs ∧ fin (xs ++ ['\n'] :: acc) = linesOf acc := by
  induction xs with
  | nil => exact ⟨cur_cons_marker acc, by rw [List.nil_append, fin_cons_marker, linesOf_eq]⟩
  | cons x xs ih =>
    obtain ⟨i1, i2⟩ := ih (fun y hy => h y (List.mem_cons_of_mem _ hy))
    have hx := h x List.mem_cons_self
    exact ⟨by rw [List.cons_append, cur_cons_word hx, i1], by rw [List.cons_append, fin_cons_word hx, i2]⟩

/-- every element of the accumulator is the break marker or plain text -/
def AccOk (cw : Char → Nat) (acc : List Str) : Prop := ∀ e ∈ acc, e = ['\n'] ∨ Plain cw e

def carryLen (st : LW) : Nat := (st.carry.getD []).length

/-- the text of the lines (newest line first), joined by newlines -/
def render : List (List Str) → Str
  | [] => []
  | [l] => l.reverse.flatten
  | l :: ls => render ls ++ ['\n'] ++ l.reverse.flatten

/-- **`linesOf` really is the line structure of the output**: the emitted text is the lines joined by `"\n"` -/
theorem flatten_eq_render (acc : List Str) : acc.reverse.flatten = render (linesOf acc) := by
  induction acc with
  | nil => rfl
  | cons e r ih =>
    simp only [List.reverse_cons, List.flatten_append, List.flatten_cons, List.flatten_nil, List.append_nil, ih]
    simp only [linesOf]
    split
    · next he =>
      have : e = ['\n'] := by simpa using he
      subst this
      cases hl : linesOf r with
      | nil => exact absurd hl (linesOf_ne_nil r)
      | cons l ls => simp [render]
    · cases hl : linesOf r with
      | nil => exact absurd hl (linesOf_ne_nil r)
      | cons l ls =>
        cases ls with
        | nil => simp [render]
        | cons l2 ls2 => simp [render, List.append_assoc]

end Clap.TextWrap

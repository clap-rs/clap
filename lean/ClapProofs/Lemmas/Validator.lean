/-
What each function of `ClapModel/Validator.lean` returns, said once: three of its four `expect`s (`gather_direct_conflicts`,
`gather_conflicts`, `is_missing_required_ok`) never fail, so `Conflicts::with_args` is a plain `map` and `validate` has a
skeleton without its first panic branch. No-panic (C01), soundness (C03), error kinds and justification (C10) and the
totality of the error builders (C10ErrTotal) are read off these.
-/
import ClapModel.Validator
import ClapProofs.Lemmas.ListFold
namespace Clap.C03

theorem find_mem {c : Cmd} {a : Id} {arg : Arg} (h : c.find a = some arg) : arg ∈ c.args ∧ arg.id = a := by
  unfold Cmd.find at h
  exact ⟨List.mem_of_find?_eq_some h, by simpa using List.find?_some h⟩

end Clap.C03

namespace Clap.C01
open Clap Validator

theorem findGroup_mem {c : Cmd} {g : Group} (h : g ∈ c.groups) : (c.findGroup g.id).isSome = true :=
  List.find?_isSome.2 ⟨g, h, by simp⟩

theorem findGroup_mem_of {c : Cmd} {id : Id} {g : Group} (h : c.findGroup id = some g) : g ∈ c.groups :=
  List.mem_of_find?_eq_some h

theorem findGroup_id {c : Cmd} {id : Id} {g : Group} (h : c.findGroup id = some g) : g.id = id := by
  simpa using List.find?_some h

/-- every member of a group is an arg or a group of the level -/
def GroupsOk (c : Cmd) : Prop := ∀ g ∈ c.groups, ∀ n ∈ g.args, (c.find n).isSome = true ∨ (c.findGroup n).isSome = true

end Clap.C01

namespace Clap.Validator
open Clap C01

theorem gatherDirectConflicts_isSome (c : Cmd) (id : Id) : (gatherDirectConflicts c id).isSome = true := by
  unfold gatherDirectConflicts
  split
  · next a _ =>
    rw [argDirectConflicts, Option.isSome_map]
    -- the groups of an arg are groups of the level, so the `expect` in the fold never fails
    refine foldl_option_isSome _ _ _ rfl fun g hg l => ?_
    obtain ⟨grp, hgrp, rfl⟩ := List.mem_map.1 hg
    obtain ⟨g', hf⟩ := Option.isSome_iff_exists.1 (findGroup_mem (List.mem_filter.1 hgrp).1)
    simp only [groupConflictStep, hf]
    rfl
  · split <;> rfl

/-- `gather_direct_conflicts` as a total function -/
def directConflicts (c : Cmd) (id : Id) : List Id := (gatherDirectConflicts c id).getD []

theorem gatherDirectConflicts_eq (c : Cmd) (id : Id) : gatherDirectConflicts c id = some (directConflicts c id) := by
  obtain ⟨l, h⟩ := Option.isSome_iff_exists.1 (gatherDirectConflicts_isSome c id)
  rw [directConflicts, h]; rfl

/-- the table `Conflicts::with_args` builds -/
def conflictTable (c : Cmd) (m : ArgMap) : List (Id × List Id) := (explicitIds m).map fun id => (id, directConflicts c id)

theorem potential_eq (c : Cmd) (m : ArgMap) : potential c m = some (conflictTable c m) := by
  unfold potential conflictTable explicitIds
  rw [List.map_map]
  exact mapM_eq_some_map _ fun x _ => by rw [gatherDirectConflicts_eq]; rfl

theorem mem_conflictTable {c : Cmd} {m : ArgMap} {q : Id × List Id} :
    q ∈ conflictTable c m ↔ q.1 ∈ explicitIds m ∧ q.2 = directConflicts c q.1 := by
  obtain ⟨i, l⟩ := q
  simp only [conflictTable, List.mem_map, Prod.mk.injEq]
  exact ⟨fun ⟨a, ha, h1, h2⟩ => h1 ▸ ⟨ha, h2.symm⟩, fun ⟨h1, h2⟩ => ⟨i, h1, rfl, h2.symm⟩⟩

theorem gatherConflicts_isSome (c : Cmd) (pot : List (Id × List Id)) (id : Id) : (gatherConflicts c pot id).isSome = true := by
  rw [gatherConflicts, Option.isSome_map]
  split
  · rfl
  · exact gatherDirectConflicts_isSome c id

/-- on the validator's own table an empty result says: nothing else that is explicitly present conflicts with `a`, in
either direction of the declaration (whether `a` is in the table or not, its own list is `directConflicts c a`) -/
theorem gatherConflicts_table_nil {c : Cmd} {m : ArgMap} {a : Id} (h : gatherConflicts c (conflictTable c m) a = some [])
    {b : Id} (hb : b ∈ explicitIds m) (hne : b ≠ a) : b ∉ directConflicts c a ∧ a ∉ directConflicts c b := by
  obtain ⟨own, hown, h⟩ := Option.map_eq_some_iff.1 h
  have : own = directConflicts c a := by
    split at hown
    · next p hf =>
      have h2 := (mem_conflictTable.1 (List.mem_of_find?_eq_some hf)).2
      have h1 : p.1 = a := by simpa using List.find?_some hf
      rw [h1] at h2; rw [h2] at hown; exact (Option.some.inj hown).symm
    · rw [gatherDirectConflicts_eq] at hown; exact (Option.some.inj hown).symm
  subst this
  have := List.flatMap_eq_nil_iff.1 h (b, directConflicts c b) (mem_conflictTable.2 ⟨hb, rfl⟩)
  have hba : (b == a) = false := by simpa using hne
  simpa [hba] using this

theorem validateExclusive_error {c : Cmd} {m : ArgMap} {e : EK} (h : validateExclusive c m = .error e) :
    e = .argumentConflict := by
  unfold validateExclusive at h
  simp only at h
  split at h
  · cases h
  · split at h <;> cases h
    rfl

theorem validateExclusive_ok {c : Cmd} {m : ArgMap} (h : validateExclusive c m = .ok ()) :
    ((explicitIds m).filter fun id => (c.find id).isSome).length ≤ 1 ∨ isExclusivePresent c m = false := by
  unfold validateExclusive at h
  simp only at h
  split at h
  · exact Or.inl ‹_›
  · split at h
    · cases h
    · next hn => exact Or.inr (eq_false_of_ne_true hn)

theorem go_ok {c : Cmd} {pot : List (Id × List Id)} : ∀ {ids : List Id},
    validateConflicts.go c pot ids = .ok () → ∀ id ∈ ids, gatherConflicts c pot id = some []
  | [], _, _, h => nomatch h
  | x :: xs, h, id, hid => by
    unfold validateConflicts.go at h
    split at h
    · cases h
    · next hg =>
      rcases List.mem_cons.1 hid with rfl | hid'
      · exact hg
      · exact go_ok h id hid'
    · cases h

/-- the loop of `validate_conflicts` fails only with `ArgumentConflict`, at an id with a non-empty conflict list -/
theorem go_error {c : Cmd} {pot : List (Id × List Id)} {e : EK} : ∀ {ids : List Id},
    validateConflicts.go c pot ids = .error e →
    e = .argumentConflict ∧ ∃ id ∈ ids, ∃ x xs, gatherConflicts c pot id = some (x :: xs)
  | [], h => nomatch h
  | y :: ys, h => by
    unfold validateConflicts.go at h
    split at h
    · next hg => have := gatherConflicts_isSome c pot y; rw [hg] at this; cases this
    · obtain ⟨h1, id, hid, r⟩ := go_error h
      exact ⟨h1, id, List.mem_cons_of_mem _ hid, r⟩
    · next l hne hg =>
      cases h
      cases l with
      | nil => exact absurd rfl hne
      | cons x xs => exact ⟨rfl, y, List.mem_cons_self, x, xs, hg⟩

theorem validateConflicts_ok {c : Cmd} {m : ArgMap} {pot : List (Id × List Id)} (h : validateConflicts c m pot = .ok ()) :
    validateExclusive c m = .ok () ∧
    ∀ id ∈ (explicitIds m).filter (fun id => (c.find id).isSome), gatherConflicts c pot id = some [] := by
  unfold validateConflicts at h
  split at h
  · cases h
  · next he => exact ⟨he, go_ok h⟩

theorem validateConflicts_error {c : Cmd} {m : ArgMap} {pot : List (Id × List Id)} {e : EK}
    (h : validateConflicts c m pot = .error e) :
    e = .argumentConflict ∧ (validateExclusive c m = .error .argumentConflict ∨
      ∃ id ∈ (explicitIds m).filter (fun id => (c.find id).isSome), ∃ x xs, gatherConflicts c pot id = some (x :: xs)) := by
  unfold validateConflicts at h
  split at h
  · next e' he => cases h; cases validateExclusive_error he; exact ⟨rfl, Or.inl he⟩
  · exact ⟨(go_error h).1, Or.inr (go_error h).2⟩

theorem isMissingRequiredOk_isSome (c : Cmd) (pot : List (Id × List Id)) (a : Arg) : (isMissingRequiredOk c pot a).isSome = true := by
  unfold isMissingRequiredOk
  split
  · next hg => have := gatherConflicts_isSome c pot a.id; rw [hg] at this; cases this
  · rfl
  · refine foldl_option_isSome _ _ _ rfl fun g _ b => ?_
    obtain ⟨l, hl⟩ := Option.isSome_iff_exists.1 (gatherConflicts_isSome c pot g)
    rw [hl]
    cases b <;> cases l <;> rfl

/-- the inner fold of `unroll_args_in_group`: what it collects are members that are args, what it pushes are members
that are not -/
theorem unrollFold_mem (c : Cmd) (ns : List Id) (acc : List Id × List Id) :
    let out := ns.foldl (fun (acc : List Id × List Id) n =>
        if acc.1.contains n then acc else if (c.find n).isSome then (acc.1 ++ [n], acc.2) else (acc.1, n :: acc.2)) acc
    (∀ x ∈ out.1, x ∈ acc.1 ∨ (x ∈ ns ∧ (c.find x).isSome = true)) ∧
    (∀ x ∈ out.2, x ∈ acc.2 ∨ (x ∈ ns ∧ (c.find x).isSome = false)) := by
  intro out
  refine foldl_inv (I := fun (out : List Id × List Id) => (∀ x ∈ out.1, x ∈ acc.1 ∨ (x ∈ ns ∧ (c.find x).isSome = true)) ∧
      (∀ x ∈ out.2, x ∈ acc.2 ∨ (x ∈ ns ∧ (c.find x).isSome = false))) (fun n hn out h => ?_)
    ⟨fun _ hx => Or.inl hx, fun _ hx => Or.inl hx⟩
  split
  · exact h
  · split
    · next hf =>
      refine ⟨fun x hx => ?_, h.2⟩
      rcases List.mem_append.1 hx with hx | hx
      · exact h.1 x hx
      · rw [List.mem_singleton.1 hx]
        exact Or.inr ⟨hn, hf⟩
    · next hf =>
      refine ⟨h.1, fun x hx => ?_⟩
      rcases List.mem_cons.1 hx with rfl | hx
      · exact Or.inr ⟨hn, eq_false_of_ne_true hf⟩
      · exact h.2 x hx

theorem _root_.Clap.C01.unrollArgsInGroup_isSome (c : Cmd) (wg : GroupsOk c) : ∀ (fuel : Nat) (gvec args : List Id),
    (∀ g ∈ gvec, (c.findGroup g).isSome = true) → (unrollArgsInGroup c fuel gvec args).isSome = true
  | 0, [], _, _ => rfl
  | 0, _ :: _, _, _ => rfl
  | _+1, [], _, _ => rfl
  | fuel+1, g :: gs, args, h => by
    obtain ⟨grp, hf⟩ := Option.isSome_iff_exists.1 (h g List.mem_cons_self)
    simp only [unrollArgsInGroup, hf]
    refine C01.unrollArgsInGroup_isSome c wg fuel _ _ fun x hx => ?_
    rcases List.mem_append.1 hx with hx | hx
    · rcases (unrollFold_mem c _ _).2 x hx with h0 | ⟨h1, h2⟩
      · cases h0
      · exact (wg grp (findGroup_mem_of hf) x h1).resolve_left (by rw [h2]; exact Bool.false_ne_true)
    · exact h x (List.mem_cons_of_mem _ hx)

theorem argsInGroup_isSome {c : Cmd} (wg : GroupsOk c) {g : Id} (hg : (c.findGroup g).isSome = true) :
    (argsInGroup c g).isSome = true :=
  C01.unrollArgsInGroup_isSome c wg _ [g] [] fun x hx => by rw [List.mem_singleton.1 hx]; exact hg

theorem validateRequired_ok {c : Cmd} {m : ArgMap} {pot : List (Id × List Id)} (h : validateRequired c m pot = .ok ()) :
    requiredLoop c m pot (isExclusivePresent c m) (requiredIds c m) = .ok false ∧
    ((c.args.any fun a => conditionallyMissing m a) && !isExclusivePresent c m) = false := by
  unfold validateRequired at h
  split at h
  · cases h
  · next missing1 hl =>
    simp only at h
    split at h
    · cases h
    · next hc =>
      simp only [Bool.or_eq_true, not_or, Bool.not_eq_true] at hc
      exact ⟨hc.1 ▸ hl, hc.2⟩

theorem validateRequired_error {c : Cmd} {m : ArgMap} {pot : List (Id × List Id)} {e : EK}
    (h : validateRequired c m pot = .error e) :
    e = .missingRequiredArgument ∨ requiredLoop c m pot (isExclusivePresent c m) (requiredIds c m) = .error e := by
  unfold validateRequired at h
  split at h
  · next e' hl => cases h; exact Or.inr hl
  · simp only at h
    split at h <;> cases h
    exact Or.inl rfl

theorem validate_ok {c : Cmd} {p : P} (h : validate c p = .ok ()) :
    validateConflicts c p.args (conflictTable c p.args) = .ok () ∧
    ((c.settings.subcommandNegatesReqs && !p.sub.isEmpty) = false →
      validateRequired c p.args (conflictTable c p.args) = .ok ()) := by
  simp only [validate, potential_eq] at h
  split at h
  · cases h
  · split at h
    · cases h
    · split at h
      · cases h
      · next hc =>
        refine ⟨hc, fun hn => ?_⟩
        rwa [hn] at h

theorem validate_error {c : Cmd} {p : P} {e : EK} (h : validate c p = .error e) :
    e = .displayHelpOnMissing ∨ e = .missingSubcommand ∨
    validateConflicts c p.args (conflictTable c p.args) = .error e ∨
    validateRequired c p.args (conflictTable c p.args) = .error e := by
  simp only [validate, potential_eq] at h
  split at h
  · cases h; exact Or.inl rfl
  · split at h
    · cases h; exact Or.inr (Or.inl rfl)
    · split at h
      · next hc => cases h; exact Or.inr (Or.inr (Or.inl hc))
      · split at h
        · exact Or.inr (Or.inr (Or.inr h))
        · cases h

end Clap.Validator

/-
The algebra of the match store `ArgMap` (an association list in insertion order).

The central notion is `m.sel id`, the entries stored under `id`: `get` is its head, `contains` its non-emptiness,
its length is the number of entries `id` has.  What an operation does to the store is said once, as what it
does to `sel`; the facts about `get`, `contains` and multiplicity follow.  Removals are said once as `Sublist`.
-/
import ClapModel
namespace Clap
namespace ArgMap

/-- the entries stored under `id`, in order -/
def sel (m : ArgMap) (id : Id) : ArgMap := m.filter fun p => p.1 == id

/-! #### `get`, `contains`, `ids` through `sel` -/

theorem get_eq_sel (m : ArgMap) (id : Id) : m.get id = ((m.sel id).head?).map (·.2) := by
  rw [sel, List.head?_filter, get]

theorem contains_iff_get (m : ArgMap) (id : Id) : m.contains id = (m.get id).isSome := by
  rw [get, Option.isSome_map, Bool.eq_iff_iff, List.find?_isSome, contains, List.any_eq_true]

theorem contains_iff_mem_ids {m : ArgMap} {id : Id} : m.contains id = true ↔ id ∈ m.ids := by
  simp [contains, ids]

theorem sel_eq_nil {m : ArgMap} {id : Id} : m.sel id = [] ↔ m.contains id = false := by
  simp [sel, contains, List.filter_eq_nil_iff]

theorem sel_sublist {m m' : ArgMap} (h : m'.Sublist m) (id : Id) : (m'.sel id).Sublist (m.sel id) := h.filter _

/-! #### the operations on `sel` -/

@[simp] theorem sel_append (m m' : ArgMap) (id : Id) : (m ++ m').sel id = m.sel id ++ m'.sel id := List.filter_append ..

@[simp] theorem sel_singleton (g id : Id) (v : MatchedArg) : sel [(g, v)] id = if g == id then [(g, v)] else [] := by
  simp [sel, List.filter_cons]

theorem update_of_not_mem (m : ArgMap) (g : Id) (f : MatchedArg → MatchedArg) (h : g ∉ m.ids) : m.update g f = m := by
  unfold update
  conv => rhs; rw [← List.map_id m]
  refine List.map_congr_left fun p hp => ?_
  have : (p.1 == g) = false := beq_eq_false_iff_ne.2 fun e => h (by rw [← e]; exact List.mem_map_of_mem hp)
  simp [this]

theorem fst_of_mem_sel {m : ArgMap} {id : Id} {p : Id × MatchedArg} (h : p ∈ m.sel id) : p.1 = id :=
  eq_of_beq (List.mem_filter.1 h).2

/-- `update` acts entry by entry, so it commutes with `sel` -/
theorem sel_update (m : ArgMap) (g id : Id) (f : MatchedArg → MatchedArg) : (m.update g f).sel id = (m.sel id).update g f := by
  simp only [sel, update, List.filter_map]
  congr 1
  exact List.filter_congr fun p _ => by simp only [Function.comp]; split <;> rfl

@[simp] theorem sel_update_self (m : ArgMap) (g : Id) (f : MatchedArg → MatchedArg) :
    (m.update g f).sel g = (m.sel g).map fun p => (p.1, f p.2) := by
  rw [sel_update, update]
  exact List.map_congr_left fun p hp => by rw [if_pos (beq_iff_eq.2 (fst_of_mem_sel hp))]

@[simp] theorem sel_update_other (m : ArgMap) {g id : Id} (f : MatchedArg → MatchedArg) (h : (g == id) = false) :
    (m.update g f).sel id = m.sel id := by
  rw [sel_update]
  refine update_of_not_mem _ g f fun hm => ?_
  obtain ⟨p, hp, rfl⟩ := List.mem_map.1 hm
  simp [fst_of_mem_sel hp] at h

theorem remove_sublist (id : Id) : ∀ m : ArgMap, (remove id m).Sublist m
  | [] => .slnil
  | q :: qs => by
    unfold remove
    split
    · exact List.sublist_cons_self q qs
    · exact (remove_sublist id qs).cons_cons q

theorem sel_cons (q : Id × MatchedArg) (qs : ArgMap) (id : Id) :
    sel (q :: qs) id = if q.1 == id then q :: sel qs id else sel qs id := List.filter_cons

@[simp] theorem sel_remove_other {g id : Id} (h : (g == id) = false) : ∀ m : ArgMap, (remove g m).sel id = m.sel id
  | [] => rfl
  | q :: qs => by
    unfold remove
    split
    · next hq =>
      have : (q.1 == id) = false := by rw [eq_of_beq hq]; exact h
      simp only [sel_cons, this, Bool.false_eq_true, ↓reduceIte]
    · rw [sel_cons, sel_cons, sel_remove_other h qs]

@[simp] theorem sel_remove_self (id : Id) : ∀ m : ArgMap, (remove id m).sel id = (m.sel id).tail
  | [] => rfl
  | q :: qs => by
    unfold remove
    split
    · next hq => simp only [sel_cons, hq, ↓reduceIte, List.tail_cons]
    · next hq => simp only [sel_cons, hq, Bool.false_eq_true, ↓reduceIte, sel_remove_self id qs]

/-! #### `get`, `contains`, `ids` of the operations, as corollaries -/

@[simp] theorem ids_update (m : ArgMap) (g : Id) (f : MatchedArg → MatchedArg) : (m.update g f).ids = m.ids := by
  simp only [ids, update, List.map_map]
  exact List.map_congr_left fun p _ => by simp only [Function.comp]; split <;> rfl

@[simp] theorem ids_append (m m' : ArgMap) : (m ++ m').ids = m.ids ++ m'.ids := List.map_append ..

theorem get_update (m : ArgMap) (g id : Id) (f : MatchedArg → MatchedArg) :
    (m.update g f).get id = if g == id then (m.get id).map f else m.get id := by
  split
  · next h => rw [← eq_of_beq h, get_eq_sel, sel_update_self, get_eq_sel]; cases m.sel g <;> rfl
  · next h => rw [get_eq_sel, sel_update_other _ _ (by simpa using h), get_eq_sel]

@[simp] theorem get_update_self (m : ArgMap) (id : Id) (f : MatchedArg → MatchedArg) :
    (m.update id f).get id = (m.get id).map f := by simp [get_update]

@[simp] theorem get_update_other (m : ArgMap) (id id' : Id) (f : MatchedArg → MatchedArg) (h : (id == id') = false) :
    (m.update id f).get id' = m.get id' := by simp [get_update, h]

theorem get_append (m m' : ArgMap) (id : Id) : (m ++ m').get id = (m.get id).or (m'.get id) := by
  simp only [get, List.find?_append]; cases List.find? _ m <;> rfl

theorem get_append_new (m : ArgMap) (id : Id) (v : MatchedArg) (h : m.contains id = false) :
    (m ++ [(id, v)]).get id = some v := by
  rw [contains_iff_get, Option.isSome_eq_false_iff, Option.isNone_iff_eq_none] at h
  rw [get_append, h]; simp [get]

@[simp] theorem get_append_other (m : ArgMap) (id id' : Id) (v : MatchedArg) (h : (id == id') = false) :
    (m ++ [(id, v)]).get id' = m.get id' := by
  rw [get_append]; simp [get, h]

theorem ids_append_nodup (m : ArgMap) (id : Id) (v : MatchedArg) (h : m.contains id = false) (hk : m.ids.Nodup) :
    (m ++ [(id, v)]).ids.Nodup := by
  have : id ∉ m.ids := fun hm => by simp [contains_iff_mem_ids.2 hm] at h
  rw [ids_append, List.nodup_append]
  exact ⟨hk, by simp [ids], fun a ha b hb e => this (by simp [ids] at hb; rw [← hb, ← e]; exact ha)⟩

/-! #### the normal form of a store with unique keys around one entry -/

theorem get_eq_none_iff {m : ArgMap} {id : Id} : m.get id = none ↔ id ∉ m.ids := by
  rw [← contains_iff_mem_ids, contains_iff_get]; cases m.get id <;> simp

/-- with unique keys, the entry of `g` splits the store into two parts that do not hold `g` -/
theorem exists_split {m : ArgMap} {g : Id} {mg : MatchedArg} (h : m.get g = some mg) (hk : m.ids.Nodup) :
    ∃ l r : ArgMap, m = l ++ (g, mg) :: r ∧ g ∉ l.ids ∧ g ∉ r.ids := by
  induction m with
  | nil => cases h
  | cons q qs ih =>
    have hk' := List.nodup_cons.1 hk
    rw [get, List.find?_cons] at h
    by_cases hq : (q.1 == g) = true
    · rw [hq] at h
      cases h
      exact ⟨[], qs, by rw [← eq_of_beq hq]; rfl, List.not_mem_nil, by rw [← eq_of_beq hq]; exact hk'.1⟩
    · rw [Bool.not_eq_true] at hq
      rw [hq] at h
      obtain ⟨l, r, e, hl, hr⟩ := ih h hk'.2
      refine ⟨q :: l, r, by rw [e]; rfl, fun hm => ?_, hr⟩
      rcases List.mem_cons.1 hm with e' | hm'
      · rw [e', beq_self_eq_true] at hq
        cases hq
      · exact hl hm'

theorem update_split (l r : ArgMap) (g : Id) (mg : MatchedArg) (f : MatchedArg → MatchedArg) (hl : g ∉ l.ids) (hr : g ∉ r.ids) :
    (l ++ (g, mg) :: r).update g f = l ++ (g, f mg) :: r := by
  have hl' := update_of_not_mem l g f hl
  have hr' := update_of_not_mem r g f hr
  unfold update at hl' hr' ⊢
  rw [List.map_append, List.map_cons, hl', hr', if_pos (beq_self_eq_true g)]

/-! #### `insert` -/

theorem insert_of_contains {m : ArgMap} {id : Id} (v : MatchedArg) (h : m.contains id = true) :
    m.insert id v = m.update id fun _ => v := by
  simp only [insert, h, ↓reduceIte, update]
  exact List.map_congr_left fun p _ => by by_cases hp : p.1 = id <;> simp [hp]

theorem get_insert (m : ArgMap) (id id' : Id) (v : MatchedArg) :
    (m.insert id v).get id' = if id == id' then some v else m.get id' := by
  by_cases hc : m.contains id = true
  · rw [insert_of_contains v hc, get_update]
    split
    · next h =>
      rw [contains_iff_get, eq_of_beq h] at hc
      obtain ⟨x, hx⟩ := Option.isSome_iff_exists.1 hc
      rw [hx]; rfl
    · rfl
  · have hc' : m.contains id = false := by simpa using hc
    simp only [insert, hc', Bool.false_eq_true, ↓reduceIte]
    split
    · next h => rw [← eq_of_beq h]; exact get_append_new m id v hc'
    · next h => exact get_append_other m id id' v (by simpa using h)

theorem ids_insert_nodup (m : ArgMap) (id : Id) (v : MatchedArg) (hk : m.ids.Nodup) : (m.insert id v).ids.Nodup := by
  by_cases hc : m.contains id = true
  · rw [insert_of_contains v hc, ids_update]; exact hk
  · have hc' : m.contains id = false := by simpa using hc
    simp only [insert, hc', Bool.false_eq_true, ↓reduceIte]
    exact ids_append_nodup m id v hc' hk

end ArgMap
end Clap

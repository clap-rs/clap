/-
What the `with…` updates of `Cmd` leave in each field that the build and history proofs read.
-/
import ClapModel.Cmd
namespace Clap.Cmd

@[simp] theorem withArgs_settings (c : Cmd) (a : List Arg) : (c.withArgs a).settings = c.settings := by cases c; rfl
@[simp] theorem withArgs_args (c : Cmd) (a : List Arg) : (c.withArgs a).args = a := by cases c; rfl
@[simp] theorem withArgs_groups (c : Cmd) (a : List Arg) : (c.withArgs a).groups = c.groups := by cases c; rfl
@[simp] theorem withArgs_subs (c : Cmd) (a : List Arg) : (c.withArgs a).subs = c.subs := by cases c; rfl

@[simp] theorem withGroups_settings (c : Cmd) (g : List Group) : (c.withGroups g).settings = c.settings := by cases c; rfl
@[simp] theorem withGroups_args (c : Cmd) (g : List Group) : (c.withGroups g).args = c.args := by cases c; rfl
@[simp] theorem withGroups_groups (c : Cmd) (g : List Group) : (c.withGroups g).groups = g := by cases c; rfl
@[simp] theorem withGroups_subs (c : Cmd) (g : List Group) : (c.withGroups g).subs = c.subs := by cases c; rfl

@[simp] theorem withSubs_settings (c : Cmd) (s : List Cmd) : (c.withSubs s).settings = c.settings := by cases c; rfl
@[simp] theorem withSubs_args (c : Cmd) (s : List Cmd) : (c.withSubs s).args = c.args := by cases c; rfl
@[simp] theorem withSubs_groups (c : Cmd) (s : List Cmd) : (c.withSubs s).groups = c.groups := by cases c; rfl
@[simp] theorem withSubs_subs (c : Cmd) (s : List Cmd) : (c.withSubs s).subs = s := by cases c; rfl

@[simp] theorem withSettings_settings (c : Cmd) (st : Settings) : (c.withSettings st).settings = st := by cases c; rfl
@[simp] theorem withSettings_args (c : Cmd) (st : Settings) : (c.withSettings st).args = c.args := by cases c; rfl
@[simp] theorem withSettings_groups (c : Cmd) (st : Settings) : (c.withSettings st).groups = c.groups := by cases c; rfl
@[simp] theorem withSettings_subs (c : Cmd) (st : Settings) : (c.withSettings st).subs = c.subs := by cases c; rfl

@[simp] theorem withSubs_withSubs (c : Cmd) (s t : List Cmd) : (c.withSubs s).withSubs t = c.withSubs t := by cases c; rfl

end Clap.Cmd

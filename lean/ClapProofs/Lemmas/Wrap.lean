import ClapModel
namespace Clap.TextWrap

/-- the non-whitespace characters of a text, in order -/
def strip (s : Str) : Str := s.filter (fun c => !isWs c)

@[simp] theorem strip_nil : strip [] = [] := rfl
@[simp] theorem strip_append (a b : Str) : strip (a ++ b) = strip a ++ strip b := by simp [strip]
theorem strip_cons (c : Char) (s : Str) : strip (c :: s) = if isWs c then strip s else c :: strip s := by
  simp [strip, List.filter_cons]; split <;> simp_all

theorem strip_eq_nil_of_all {s : Str} (h : s.all isWs = true) : strip s = [] := by
  induction s with
  | nil => rfl
  | cons c cs ih =>
    simp at h
    rw [strip_cons]; simp [h.1]; exact ih (by simpa using h.2)

/-- `dropWhileEnd p` only removes a suffix all of whose characters satisfy `p` -/
theorem dropWhileEnd_spec (p : Char → Bool) : ∀ s : Str, ∃ t, s = dropWhileEnd p s ++ t ∧ t.all p = true
  | [] => ⟨[], by simp [dropWhileEnd]⟩
  | c :: cs => by
    obtain ⟨t, ht, hp⟩ := dropWhileEnd_spec p cs
    unfold dropWhileEnd
    cases hd : dropWhileEnd p cs with
    | nil =>
      rw [hd] at ht
      simp only
      by_cases hc : p c = true
      · refine ⟨c :: cs, by simp [hc], ?_⟩
        simp at ht; subst ht; simp [hc, hp]
      · refine ⟨t, by simp [hc]; simpa using ht, hp⟩
    | cons x r =>
      rw [hd] at ht
      exact ⟨t, by simp; exact ht, hp⟩

theorem dropWhileEnd_congr (p q : Char → Bool) (s : Str) (h : ∀ c ∈ s, p c = q c) : dropWhileEnd p s = dropWhileEnd q s := by
  induction s with
  | nil => rfl
  | cons c r ih =>
    have := ih (fun x hx => h x (List.mem_cons_of_mem _ hx))
    simp only [dropWhileEnd, this, h c List.mem_cons_self]

theorem dropWhileEnd_sublist (p : Char → Bool) (s : Str) : ∀ c ∈ dropWhileEnd p s, c ∈ s := by
  obtain ⟨t, ht, _⟩ := dropWhileEnd_spec p s
  intro c hc
  rw [ht]; exact List.mem_append_left _ hc

def trimSp (s : Str) : Str := dropWhileEnd (· == ' ') s

theorem trimSp_idem (e : Str) : trimSp (trimSp e) = trimSp e := by
  unfold trimSp
  induction e with
  | nil => rfl
  | cons c r ih =>
    simp only [dropWhileEnd]
    cases hd : dropWhileEnd (fun x => x == ' ') r with
    | nil =>
      simp only
      by_cases hc : (c == ' ') = true
      · simp [hc, dropWhileEnd]
      · simp [hc, dropWhileEnd]
    | cons x xs =>
      simp only
      rw [hd] at ih
      rw [dropWhileEnd, ih]

theorem strip_trimEnd (s : Str) : strip (trimEnd s) = strip s := by
  obtain ⟨t, ht, hp⟩ := dropWhileEnd_spec isWs s
  unfold trimEnd
  conv => rhs; rw [ht]
  simp [strip_eq_nil_of_all hp]

theorem findWordsAux_flatten : ∀ (s cur : Str) (inWs : Bool),
    (findWordsAux cur inWs s).flatten = cur.reverse ++ s
  | [], cur, _ => by
    unfold findWordsAux
    split
    · next h => simp at h; simp [h]
    · simp
  | c :: cs, cur, inWs => by
    unfold findWordsAux
    simp only
    split
    · simp [findWordsAux_flatten cs]
    · simp [findWordsAux_flatten cs]

theorem findWords_flatten (s : Str) : (findWords s).flatten = s := by
  simp [findWords, findWordsAux_flatten]

theorem mem_of_mem_findWords {s w : Str} {c : Char} (hw : w ∈ findWords s) (hc : c ∈ w) : c ∈ s := by
  rw [← findWords_flatten s]
  exact List.mem_flatten.2 ⟨w, hw, hc⟩

theorem splitInclusiveAux_flatten : ∀ (s cur : Str), (splitInclusiveAux cur s).flatten = cur.reverse ++ s
  | [], cur => by
    unfold splitInclusiveAux
    split
    · next h => simp at h; simp [h]
    · simp
  | c :: cs, cur => by
    unfold splitInclusiveAux
    split
    · simp [splitInclusiveAux_flatten cs]
    · simp [splitInclusiveAux_flatten cs]

theorem splitInclusive_flatten (s : Str) : (splitInclusive s).flatten = s := by
  simp [splitInclusive, splitInclusiveAux_flatten]

/-- non-whitespace content of an accumulator (newest first) -/
def stripAcc (acc : List Str) : Str := strip acc.reverse.flatten

@[simp] theorem stripAcc_cons (x : Str) (acc : List Str) : stripAcc (x :: acc) = stripAcc acc ++ strip x := by
  simp [stripAcc]

theorem strip_trimSpaces (s : Str) : strip (dropWhileEnd (· == ' ') s) = strip s := by
  obtain ⟨t, ht, hp⟩ := dropWhileEnd_spec (· == ' ') s
  conv => rhs; rw [ht]
  have : t.all isWs = true := by
    simp at hp ⊢
    intro c hc; rw [hp c hc]; decide
  simp [strip_eq_nil_of_all this]

theorem stripAcc_trimLast (acc : List Str) : stripAcc (trimLast acc) = stripAcc acc := by
  cases acc with
  | nil => rfl
  | cons l rest => simp [trimLast, strip_trimSpaces]

/-- what `LineWrapper::wrap` adds to `line_width` for a word: the display width of the trimmed word plus the trimmed bytes -/
def _root_.Clap.C20.wordCost (cw : Char → Nat) (w : Str) : Nat := displayWidth cw (trimEnd w) + (byteLen w - byteLen (trimEnd w))

open Clap.C20 (wordCost)

/-- One turn of the loop with the two `carry` cases merged: a break puts the marker and the carried indent (if there is
one) in front of the word. Every fact about the loop below is an induction over this equation. -/
theorem wrapLoop_cons (cw : Char → Nat) (st : LW) (first : Bool) (acc : List Str) (word : Str) (ws : List Str) :
    wrapLoop cw st first acc (word :: ws) =
      if !first && st.hard < st.lineWidth + displayWidth cw (trimEnd word) then
        wrapLoop cw { st with lineWidth := byteLen (st.carry.getD []) + wordCost cw word } false
          (word :: (st.carry.toList ++ ['\n'] :: trimLast acc)) ws
      else wrapLoop cw { st with lineWidth := st.lineWidth + wordCost cw word } false (word :: acc) ws := by
  obtain ⟨hard, lw, carry⟩ := st
  cases carry <;> simp [wrapLoop, wordCost, Nat.add_assoc, show byteLen [] = 0 from rfl]

theorem wrapLoop_state (cw : Char → Nat) : ∀ (ws : List Str) (st : LW) (first : Bool) (acc : List Str),
    (wrapLoop cw st first acc ws).1.hard = st.hard ∧ (wrapLoop cw st first acc ws).1.carry = st.carry
  | [], _, _, _ => ⟨rfl, rfl⟩
  | w :: ws, st, first, acc => by
    rw [wrapLoop_cons]
    split <;> exact wrapLoop_state cw ws _ _ _

theorem displayWidthAux_congr (cw cv : Char → Nat) : ∀ (s : Str) (b : Bool), (∀ c ∈ s, cw c = cv c) →
    displayWidthAux cw b s = displayWidthAux cv b s
  | [], _, _ => rfl
  | c :: s, b, h => by
    have ih := fun b => displayWidthAux_congr cw cv s b (fun x hx => h x (List.mem_cons_of_mem _ hx))
    simp only [displayWidthAux, ih, h c List.mem_cons_self]

theorem wrapLoop_congr (cw cv : Char → Nat) : ∀ (ws : List Str) (st : LW) (first : Bool) (acc : List Str),
    (∀ w ∈ ws, ∀ c ∈ w, cw c = cv c) → wrapLoop cw st first acc ws = wrapLoop cv st first acc ws
  | [], _, _, _, _ => rfl
  | w :: ws, st, first, acc, h => by
    have hd : displayWidth cw (trimEnd w) = displayWidth cv (trimEnd w) :=
      displayWidthAux_congr cw cv _ false (fun c hc => h w List.mem_cons_self c (dropWhileEnd_sublist _ w c hc))
    have ih := fun st a => wrapLoop_congr cw cv ws st false a (fun x hx => h x (List.mem_cons_of_mem _ hx))
    simp only [wrapLoop_cons, wordCost, hd, ih]

theorem wrapLoop_strip (cw : Char → Nat) : ∀ (words : List Str) (st : LW) (first : Bool) (acc : List Str),
    (∀ c, st.carry = some c → strip c = []) →
    stripAcc (wrapLoop cw st first acc words).2 = stripAcc acc ++ strip words.flatten
  | [], st, first, acc, _ => by simp [wrapLoop]
  | word :: ws, st, first, acc, hc => by
    have ih := fun lw a => wrapLoop_strip cw ws ⟨st.hard, lw, st.carry⟩ false a hc
    rw [wrapLoop_cons]
    split
    · have hcar : ∀ rest, stripAcc (st.carry.toList ++ rest) = stripAcc rest := by
        intro rest
        cases h : st.carry with
        | none => rfl
        | some c => simp [hc c h]
      rw [ih]
      simp [hcar, stripAcc_trimLast, strip_cons, isWs]
    · rw [ih]
      simp

/-- the state `LineWrapper::wrap` enters its loop with: a wrapper without carry-over takes the first word, if it is all
whitespace, as the hanging indent (else the empty one) -/
def LW.start (st : LW) (words : List Str) : LW :=
  match st.carry, words with
  | none, w :: _ => { st with carry := some (if (w.all isWs) then w else []) }
  | _, _ => st

/-- `LineWrapper::wrap` is the loop run from `start` on an empty output. The proofs about `LW.wrap` go through this
equation and the three facts about `start` below, none unfolds it. -/
theorem LWwrap_eq (cw : Char → Nat) (st : LW) (ws : List Str) :
    st.wrap cw ws = ((wrapLoop cw (st.start ws) true [] ws).1, (wrapLoop cw (st.start ws) true [] ws).2.reverse) := rfl

@[simp] theorem LW.start_hard (st : LW) (ws : List Str) : (st.start ws).hard = st.hard := by
  unfold LW.start; split <;> rfl

@[simp] theorem LW.start_lineWidth (st : LW) (ws : List Str) : (st.start ws).lineWidth = st.lineWidth := by
  unfold LW.start; split <;> rfl

theorem LW.start_carry {P : Str → Prop} (st : LW) (ws : List Str) (hst : ∀ c, st.carry = some c → P c)
    (hw : ∀ w ∈ ws.head?, w.all isWs = true → P w) (hnil : P []) : ∀ c, (st.start ws).carry = some c → P c := by
  unfold LW.start
  split
  · next w _ _ =>
    intro c hc
    cases hc
    split
    · next hall => exact hw w rfl hall
    · exact hnil
  · exact hst

theorem LWwrap_congr (cw cv : Char → Nat) (st : LW) (ws : List Str) (h : ∀ w ∈ ws, ∀ c ∈ w, cw c = cv c) :
    st.wrap cw ws = st.wrap cv ws := by
  rw [LWwrap_eq, LWwrap_eq, wrapLoop_congr cw cv _ _ _ _ h]

theorem LWwrap_strip (cw : Char → Nat) (st : LW) (words : List Str)
    (hc : ∀ c, st.carry = some c → strip c = []) :
    strip (st.wrap cw words).2.flatten = strip words.flatten ∧
    (∀ c, (st.wrap cw words).1.carry = some c → strip c = []) ∧ (st.wrap cw words).1.hard = st.hard := by
  have h1 := st.start_carry words hc (fun w _ => strip_eq_nil_of_all) rfl
  obtain ⟨b, c⟩ := wrapLoop_state cw words (st.start words) true []
  rw [LWwrap_eq]
  exact ⟨by simpa [stripAcc] using wrapLoop_strip cw words _ true [] h1, by rw [c]; exact h1, by rw [b, LW.start_hard]⟩

end Clap.TextWrap

/-
UTF-8: one well-formed scalar sequence at the head of a byte string is split off as one character, whatever follows
(used by the short-cluster attribution theorem of C02 / C08).
-/
import ClapProofs.Lemmas.Utf8L
namespace Clap
namespace Utf8

/-- `x` is exactly one well-formed UTF-8 scalar sequence (decidable: run the scanner on it) -/
def IsChar (x : Bytes) : Prop := scan St.init x = ([x], [])

instance (x : Bytes) : Decidable (IsChar x) := by unfold IsChar; infer_instance

/-- a scan that produces neither a character nor a rest has read nothing -/
theorem scan_nil_nil : ∀ (bs : Bytes) (st : St), scan st bs = ([], []) → bs = []
  | [], _, _ => rfl
  | b :: bs, st, h => by
    exfalso
    unfold scan at h
    split at h
    · split at h
      · simp at h
      · simp [consFst] at h
      · next n lo hi _ =>
        have := scan_nil_nil bs _ h
        subst this
        simp [scan] at h
    · split at h
      · simp [consFst] at h
      · simp at h
    · next n _ =>
      split at h
      · have := scan_nil_nil bs _ h
        subst this
        simp [scan] at h
      · simp at h

/-- if the scanner, from any state, reads `c` as exactly one character `x`, then it does so in front of any
continuation and goes on from the initial state -/
theorem scan_char_append : ∀ (c : Bytes) (st : St) (x : Bytes), scan st c = ([x], []) →
    ∀ rest, scan st (c ++ rest) = consFst x (scan St.init rest)
  | [], st, x, h => by simp [scan] at h
  | b :: bs, st, x, h => by
    intro rest
    rw [List.cons_append]
    unfold scan at h
    conv => lhs; unfold scan
    split at h
    · next hneed =>
      split at h
      · simp at h
      · next heq =>
        simp only [consFst, Prod.mk.injEq, List.cons.injEq] at h
        obtain ⟨⟨hx, h1⟩, h2⟩ := h
        have hbs : bs = [] := scan_nil_nil bs St.init (Prod.ext h1 h2)
        subst hbs
        subst hx
        simp
      · next n lo hi heq =>
        exact scan_char_append bs _ x h rest
    · next hneed =>
      split at h
      · next hin =>
        simp only [hin, and_self, ↓reduceIte]
        simp only [consFst, Prod.mk.injEq, List.cons.injEq] at h
        obtain ⟨⟨hx, h1⟩, h2⟩ := h
        have hbs : bs = [] := scan_nil_nil bs St.init (Prod.ext h1 h2)
        subst hbs
        subst hx
        simp
      · simp at h
    · next n hneed =>
      split at h
      · next hin =>
        simp only [hin, and_self, ↓reduceIte]
        exact scan_char_append bs _ x h rest
      · simp at h

theorem isChar_append {x : Bytes} (h : IsChar x) (rest : Bytes) :
    splitValid (x ++ rest) = consFst x (splitValid rest) :=
  scan_char_append x St.init x h rest

/-- a string of characters followed by anything: the characters come first, then whatever the rest scans to -/
theorem splitValid_chars : ∀ (cs : List Bytes), (∀ c ∈ cs, IsChar c) → ∀ rest,
    splitValid (cs.flatten ++ rest) = (cs ++ (splitValid rest).1, (splitValid rest).2)
  | [], _, rest => by simp
  | c :: cs, h, rest => by
    rw [List.flatten_cons, List.append_assoc, isChar_append (h c List.mem_cons_self),
      splitValid_chars cs (fun c' hc' => h c' (List.mem_cons_of_mem _ hc')) rest]
    simp [consFst]

theorem isChar_ne_nil {x : Bytes} (h : IsChar x) : x ≠ [] := by
  intro hx; subst hx; simp [IsChar, scan] at h

example : IsChar [0x61] ∧ IsChar [0xC3, 0xA9] ∧ IsChar [0xE2, 0x82, 0xAC] ∧ IsChar [0xF0, 0x9F, 0x98, 0x80] ∧
    ¬ IsChar [0xC3] ∧ ¬ IsChar [0x61, 0x62] ∧ ¬ IsChar [0xFF] := by decide +kernel

end Utf8
end Clap

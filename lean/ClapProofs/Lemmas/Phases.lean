/-
The environment pass and the default pass (`add_env`, `add_defaults`) do nothing but call `react` - with a source
other than the command line, nothing pending handed in, and only for an arg the store does not hold yet. So whatever
`react` keeps under these conditions, the passes keep: one lemma per pass, the invariant and the admissible errors
left open.
-/
import ClapProofs.Lemmas.Outcome
namespace Clap
open Parser

/-- what a pass needs of `react`: from a state satisfying `I`, reacting to a value from the environment or a default
for an arg not yet in the store ends in a state satisfying `I`, and fails only with an error in `E` -/
def PhaseStep (c : Cmd) (I : P → Prop) (E : EK → Prop) : Prop :=
  ∀ (s : Source) (a : Arg) (vals : List Bytes) (p : P), (s == .cmdline) = false → p.args.contains a.id = false → I p →
    Out I E (fun _ _ => True) (react c none s a vals none p)

variable {c : Cmd} {I : P → Prop} {E : EK → Prop}

theorem addEnv_out (h : PhaseStep c I E) : ∀ (as : List Arg) (p : P), I p → Out I E (fun _ _ => True) (addEnv c as p)
  | [], _, hp => Out.ok hp trivial
  | a :: as, p, hp => by
    unfold addEnv
    split
    · exact addEnv_out h as p hp
    · next hc =>
      split
      · next val _ =>
        rcases (h .env a [val] p rfl (by simpa using hc) hp).elim with ⟨p1, e, hr, h1, he⟩ | ⟨p1, _, hr, h1, _⟩
        · rw [hr]; exact Out.error h1 he
        · rw [hr]; exact addEnv_out h as p1 h1
      · exact addEnv_out h as p hp

theorem defaultIfLoop_out (h : PhaseStep c I E) (a : Arg) : ∀ (l : List (Id × Pred × Option Bytes)) (p : P),
    p.args.contains a.id = false → I p → ∀ r, defaultIfLoop c a l p = some r → Out I E (fun _ _ => True) r
  | [], _, _, _, _, hr => by cases hr
  | (_, _, dflt) :: more, p, hc, hp, r, hr => by
    unfold defaultIfLoop at hr
    split at hr
    · split at hr
      · next d =>
        rcases (h .default a [d] p rfl hc hp).elim with ⟨p1, e, he, h1, hE⟩ | ⟨p1, _, he, h1, _⟩
        · rw [he] at hr; cases hr; exact Out.error h1 hE
        · rw [he] at hr; cases hr; exact Out.ok h1 trivial
      · cases hr; exact Out.ok hp trivial
    · exact defaultIfLoop_out h a more p hc hp r hr

theorem addDefaultValue_out (h : PhaseStep c I E) (a : Arg) (p : P) (hp : I p) :
    Out I E (fun _ _ => True) (addDefaultValue c a p) := by
  have hcont : ∀ b : Bool, (b && !p.args.contains a.id) = true → p.args.contains a.id = false := by
    intro b hb
    rw [Bool.and_eq_true, Bool.not_eq_true'] at hb
    exact hb.2
  unfold addDefaultValue
  simp only
  split
  · next r hr =>
    split at hr
    · next hc => exact defaultIfLoop_out h a _ p (hcont _ hc) hp r hr
    · cases hr
  · split
    · next hc =>
      rcases (h .default a a.defaultVals p rfl (hcont _ hc) hp).elim with
        ⟨p1, e, he, h1, hE⟩ | ⟨p1, _, he, h1, _⟩
      · rw [he]; exact Out.error h1 hE
      · rw [he]; exact Out.ok h1 trivial
    · exact Out.ok hp trivial

theorem addDefaults_out (h : PhaseStep c I E) : ∀ (as : List Arg) (p : P), I p → Out I E (fun _ _ => True) (addDefaults c as p)
  | [], _, hp => Out.ok hp trivial
  | a :: as, p, hp => by
    unfold addDefaults
    rcases (addDefaultValue_out h a p hp).elim with ⟨p1, e, he, h1, hE⟩ | ⟨p1, _, he, h1, _⟩
    · rw [he]; exact Out.error h1 hE
    · rw [he]; exact addDefaults_out h as p1 h1

end Clap

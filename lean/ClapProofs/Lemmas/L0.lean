import ClapModel
namespace Clap
open Bytes

theorem stripPrefix_eq_some (h p t : Bytes) : stripPrefix h p = some t ↔ h = p ++ t := by
  induction p generalizing h with
  | nil => simp [stripPrefix]
  | cons x xs ih =>
    cases h with
    | nil => simp [stripPrefix]
    | cons y ys =>
      simp only [stripPrefix]
      split
      · next hxy => have := eq_of_beq hxy; subst this; simp [ih]
      · next hxy => simp at hxy; simp; intro h; exact absurd h hxy

theorem stripPrefix_isSome (h p : Bytes) : (stripPrefix h p).isSome = startsWith h p := by
  induction p generalizing h with
  | nil => simp [stripPrefix, startsWith]
  | cons x xs ih =>
    cases h with
    | nil => simp [stripPrefix, startsWith]
    | cons y ys =>
      simp only [stripPrefix, startsWith]
      split
      · next hxy => simp [hxy, ih]
      · next hxy => simp [hxy]

theorem startsWith_iff (h p : Bytes) : startsWith h p = true ↔ ∃ t, h = p ++ t := by
  rw [← stripPrefix_isSome, Option.isSome_iff_exists]
  simp only [stripPrefix_eq_some]

theorem startsWith_append (a b : Bytes) : startsWith (a ++ b) a = true := (startsWith_iff _ _).2 ⟨b, rfl⟩

theorem startsWith_nil (a : Bytes) : startsWith a [] = true := by cases a <;> rfl

theorem startsWith_cons_singleton (x c : UInt8) (t : Bytes) : startsWith (x :: t) [c] = (x == c) := by
  simp [startsWith, startsWith_nil]

end Clap

namespace Clap
open Bytes
namespace OsStrExt

theorem scanFrom_some (n : Bytes) : ∀ (h : Bytes) (k i j : Nat), scanFrom n h k i = some j →
    ∃ d, j = i + d ∧ d < k ∧ startsWith (h.drop d) n = true ∧ ∀ e, e < d → startsWith (h.drop e) n = false
  | _, 0, _, _, hh => by simp [scanFrom] at hh
  | h, k+1, i, j, hh => by
    unfold scanFrom at hh
    split at hh
    · next hs => exact ⟨0, by simpa using hh.symm, by omega, by simpa using hs, by intro e he; omega⟩
    · next hs =>
      cases h with
      | nil => simp at hh
      | cons x t =>
        simp only at hh
        obtain ⟨d, hj, hd, hst, hmin⟩ := scanFrom_some n t k (i+1) j hh
        refine ⟨d+1, by omega, by omega, by simpa using hst, ?_⟩
        intro e he
        cases e with
        | zero => simpa using hs
        | succ e => simpa using hmin e (by omega)

theorem scanFrom_none (n : Bytes) : ∀ (h : Bytes) (k i : Nat), scanFrom n h k i = none →
    ∀ d, d < k → startsWith (h.drop d) n = false
  | _, 0, _, _ => by intro d hd; omega
  | h, k+1, i, hh => by
    unfold scanFrom at hh
    split at hh
    · simp at hh
    · next hs =>
      cases h with
      | nil => intro d _; simpa using hs
      | cons x t =>
        simp only at hh
        intro d hd
        cases d with
        | zero => simpa using hs
        | succ d => simpa using scanFrom_none n t k (i+1) hh d (by omega)

theorem startsWith_length {h n : Bytes} (hs : startsWith h n = true) : n.length ≤ h.length := by
  obtain ⟨t, rfl⟩ := (startsWith_iff h n).1 hs
  simp

/-- `find` returns the least offset at which the needle occurs in the bytes -/
theorem find_some {h n : Bytes} {i : Nat} (hf : find h n = some i) :
    startsWith (h.drop i) n = true ∧ (∀ j, j < i → startsWith (h.drop j) n = false) := by
  unfold find at hf
  split at hf
  · obtain ⟨d, rfl, _, hst, hmin⟩ := scanFrom_some n h _ 0 i hf
    rw [Nat.zero_add]
    exact ⟨hst, hmin⟩
  · simp at hf

theorem find_none {h n : Bytes} (hf : find h n = none) : ∀ j, startsWith (h.drop j) n = false := by
  intro j
  cases hc : startsWith (h.drop j) n with
  | false => rfl
  | true =>
    -- an occurrence at `j` fits into `h`, so `j` is one of the windows that were scanned
    have hl := startsWith_length hc
    rw [List.length_drop] at hl
    unfold find at hf
    split at hf
    · cases n with
      | nil => exact absurd (scanFrom_none [] h _ 0 hf 0 (by omega)) (by simp [startsWith_nil])
      | cons a n' => rw [← hc]; exact scanFrom_none _ h _ 0 hf j (by simp only [List.length_cons] at hl ⊢; omega)
    · omega

/-- conversely, the least occurrence is what `find` returns -/
theorem find_eq_some_iff (h n : Bytes) (i : Nat) :
    find h n = some i ↔ startsWith (h.drop i) n = true ∧ ∀ j, j < i → startsWith (h.drop j) n = false := by
  refine ⟨find_some, fun ⟨hs, hmin⟩ => ?_⟩
  cases hf : find h n with
  | none => rw [find_none hf i] at hs; cases hs
  | some k =>
    obtain ⟨hks, hkmin⟩ := find_some hf
    -- neither occurrence can lie before the other
    have h1 : ¬ k < i := fun hlt => by rw [hmin k hlt] at hks; cases hks
    have h2 : ¬ i < k := fun hlt => by rw [hkmin i hlt] at hs; cases hs
    congr
    omega

theorem find_none_iff (h n : Bytes) : find h n = none ↔ ∀ j, startsWith (h.drop j) n = false := by
  refine ⟨find_none, fun hall => ?_⟩
  cases hf : find h n with
  | none => rfl
  | some i => exact absurd ((find_some hf).1.symm.trans (hall i)) (by simp)

theorem splitOnce_some {h n a b : Bytes} (hs : splitOnce h n = some (a, b)) :
    h = a ++ n ++ b ∧ ∀ j, j < a.length → startsWith (h.drop j) n = false := by
  unfold splitOnce at hs
  cases hf : find h n with
  | none => simp [hf] at hs
  | some i =>
    simp only [hf, Option.some.injEq, Prod.mk.injEq] at hs
    obtain ⟨rfl, rfl⟩ := hs
    obtain ⟨hst, hmin⟩ := find_some hf
    obtain ⟨t, ht⟩ := (startsWith_iff _ _).1 hst
    refine ⟨?_, fun j hj => hmin j (Nat.lt_of_lt_of_le hj (List.length_take_le i h))⟩
    rw [← List.drop_drop, ht, List.drop_left, List.append_assoc, ← ht, List.take_append_drop]

theorem splitOnce_none {h n : Bytes} (hs : splitOnce h n = none) :
    ∀ j, startsWith (h.drop j) n = false := by
  unfold splitOnce at hs
  cases hf : find h n with
  | none => exact find_none hf
  | some i => simp [hf] at hs

-- an occurrence inside a prefix is an occurrence in the whole, at the same offset
theorem find_prefix_none {a rest n : Bytes} (hn : n ≠ [])
    (h : ∀ j, j < a.length → startsWith ((a ++ rest).drop j) n = false) : find a n = none := by
  rw [find_none_iff]
  intro j
  cases hs : startsWith (a.drop j) n with
  | false => rfl
  | true =>
    obtain ⟨t, ht⟩ := (startsWith_iff _ _).1 hs
    have hlen := startsWith_length hs
    have hpos := List.length_pos_iff.2 hn
    rw [List.length_drop] at hlen
    rw [← h j (by omega), eq_comm, startsWith_iff, List.drop_append_of_le_length (by omega), ht]
    exact ⟨t ++ rest, by simp⟩

theorem not_mem_of_never (c : UInt8) : ∀ (a : Bytes), (∀ j, startsWith (a.drop j) [c] = false) → c ∉ a
  | [], _ => List.not_mem_nil
  | x :: a, h => by
    have h0 := h 0
    rw [List.drop_zero, startsWith_cons_singleton] at h0
    have ih := not_mem_of_never c a fun j => h (j + 1)
    rw [List.mem_cons, not_or]
    exact ⟨fun hcx => by simp [hcx] at h0, ih⟩

/-- a one-byte needle that never matches inside `a` does not occur in `a` -/
theorem not_mem_of_no_match (c : UInt8) (a rest : Bytes)
    (h : ∀ j, j < a.length → startsWith ((a ++ rest).drop j) [c] = false) : c ∉ a :=
  not_mem_of_never c a ((find_none_iff _ _).1 (find_prefix_none (List.cons_ne_nil _ _) h))

end OsStrExt
end Clap

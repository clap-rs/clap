/-
C19 — Man pages always render, cover every visible item, and keep user text as text.
-/
import ClapModel
import ClapProofs.Lemmas.ListFold
namespace Clap.C19
open Clap Roff Man

/-! #### the scan for request lines -/

theorem ccCount_split (st : Bool) (s : Bytes) :
    ccCount st s = (if st && startsWithCc s then 1 else 0) + ccCount false s := by
  cases s <;> simp [ccCount, startsWithCc]

theorem ccCount_append (st : Bool) (a b : Bytes) :
    ccCount st (a ++ b) = ccCount st a + ccCount (endsAtLineStart st a) b := by
  induction a generalizing st with
  | nil => simp [ccCount, endsAtLineStart]
  | cons x xs ih => simp [ccCount, endsAtLineStart, ih, Nat.add_assoc]

theorem endsAtLineStart_append (st : Bool) (a b : Bytes) :
    endsAtLineStart st (a ++ b) = endsAtLineStart (endsAtLineStart st a) b := by
  induction a generalizing st with
  | nil => simp [endsAtLineStart]
  | cons x xs ih => simp [endsAtLineStart, ih]

def endsNl (s : Bytes) : Bool := s.getLast? == some 10

theorem endsAtLineStart_nonempty (st : Bool) (s : Bytes) (h : s ≠ []) : endsAtLineStart st s = endsNl s := by
  induction s generalizing st with
  | nil => exact absurd rfl h
  | cons x xs ih =>
    cases xs with
    | nil => simp [endsAtLineStart, endsNl]
    | cons y ys => rw [endsAtLineStart, ih _ (by simp)]; simp [endsNl, List.getLast?_cons_cons]

/-- no newline inside: the scan state at the end is `false` unless the string is empty -/
theorem endsAtLineStart_noNl (st : Bool) (s : Bytes) (h : 10 ∉ s) (hne : s ≠ []) : endsAtLineStart st s = false := by
  rw [endsAtLineStart_nonempty st s hne, endsNl, beq_eq_false_iff_ne]
  exact fun e => h (List.mem_of_getLast? e)

theorem ccCount_noNl (s : Bytes) (h : 10 ∉ s) : ccCount false s = 0 := by
  induction s with
  | nil => rfl
  | cons x xs ih =>
    rw [List.mem_cons, not_or] at h
    have hx : (x == 10) = false := beq_false_of_ne (Ne.symm h.1)
    simp [ccCount, hx, ih h.2]

/-! #### escaped text never has a control character after a newline -/

/-- no `\n` is directly followed by `.` or `'` -/
def noNlCc : Bytes → Bool
  | [] => true
  | b :: r => (!(b == 10) || !startsWithCc r) && noNlCc r

theorem ccCount_false_of_noNlCc (s : Bytes) (h : noNlCc s = true) : ccCount false s = 0 := by
  induction s with
  | nil => rfl
  | cons b r ih =>
    simp only [noNlCc, Bool.and_eq_true, Bool.or_eq_true, Bool.not_eq_true'] at h
    rw [ccCount, ccCount_split, ih h.2]
    rcases h.1 with h1 | h1 <;> simp [h1]

theorem mem_escapeApostrophes (s : Bytes) : (39 : UInt8) ∉ escapeApostrophes s := by
  induction s with
  | nil => simp [escapeApostrophes]
  | cons b r ih =>
    rw [escapeApostrophes]
    split
    · simp [ih]
    · next h => simp only [List.mem_cons, not_or]; exact ⟨fun e => h (by simp [← e]), ih⟩

theorem mem_escapeNlDot (s : Bytes) (h : (39 : UInt8) ∉ s) : (39 : UInt8) ∉ escapeNlDot s := by
  induction s with
  | nil => exact h
  | cons b r ih =>
    rw [List.mem_cons, not_or] at h
    rw [escapeNlDot]
    split <;> simp [h.1, ih h.2]

theorem escapeNlApos_id (s : Bytes) (h : (39 : UInt8) ∉ s) : escapeNlApos s = s := by
  induction s with
  | nil => rfl
  | cons b r ih =>
    rw [List.mem_cons, not_or] at h
    have : r.head? ≠ some 39 := fun e => h.2 (List.mem_of_mem_head? e)
    simp [escapeNlApos, this, ih h.2]

theorem head_escapeNlDot (s : Bytes) : (escapeNlDot s).head? = s.head? := by
  cases s with
  | nil => rfl
  | cons b r =>
    rw [escapeNlDot]
    split
    · next h => simp at h; simp [h.1]
    · rfl

theorem startsWithCc_congr {a b : Bytes} (h : a.head? = b.head?) : startsWithCc a = startsWithCc b := by
  cases a <;> cases b <;> simp_all [startsWithCc]

theorem noNlCc_escapeNlDot (s : Bytes) (h : (39 : UInt8) ∉ s) : noNlCc (escapeNlDot s) = true := by
  induction s with
  | nil => rfl
  | cons b r ih =>
    rw [List.mem_cons, not_or] at h
    rw [escapeNlDot]
    split
    · -- "\n." becomes "\n\&." : the newline is followed by a backslash
      simp [noNlCc, startsWithCc, isCc, ih h.2]
    · next hnm =>
      -- a newline that stays is followed by the next byte of the input, which is neither `.` nor `'`
      simp only [noNlCc, ih h.2, Bool.and_true, startsWithCc_congr (head_escapeNlDot r)]
      cases r with
      | nil => simp [startsWithCc]
      | cons y ys =>
        have hy : y ≠ 39 := fun e => h.2 (e ▸ List.mem_cons_self)
        by_cases hb : b = 10
        · have : y ≠ 46 := by simpa [hb] using hnm
          simp [startsWithCc, isCc, this, hy]
        · simp [hb]

/-- **escaped inline text never puts `.` or `'` right after a newline** (for every input text) -/
theorem escText_noNlCc (t : Bytes) : noNlCc (escText t) = true := by
  unfold escText
  have h39 := mem_escapeApostrophes (escapeInline t)
  rw [escapeNlApos_id _ (mem_escapeNlDot _ h39)]
  exact noNlCc_escapeNlDot _ h39

theorem ccCount_escText (st : Bool) (t : Bytes) :
    ccCount st (escText t) = if st && startsWithCc (escText t) then 1 else 0 := by
  rw [ccCount_split, ccCount_false_of_noNlCc _ (escText_noNlCc t)]; simp

/-! #### one text line -/

def breaks : List Inline → Nat
  | [] => 0
  | .lineBreak :: r => 1 + breaks r
  | _ :: r => breaks r

/-- what the previous inline guarantees about the physical position: bold/italic end with `\fR`,
a roman inline with non-empty text that does not end in a newline leaves the line open -/
def offLineStart : Option Inline → Bool
  | some (.bold _) => true
  | some (.italic _) => true
  | some (.roman t) => !(escText t).isEmpty && !endsNl (escText t)
  | _ => false

/-- a roman inline that is not the first of its line and starts with `.`/`'` must follow an inline that
leaves the line open -/
def shapeFrom : Option Inline → List Inline → Bool
  | _, [] => true
  | prev, .roman t :: r => (!startsWithCc (escText t) || offLineStart prev) && shapeFrom (some (.roman t)) r
  | _, x :: r => shapeFrom (some x) r

/-- the first inline is guarded by `at_line_start`; the rest must have the shape -/
def Shape : List Inline → Bool
  | [] => true
  | x :: r => shapeFrom (some x) r

/-- the inlines whose text would be read as a request at the start of a physical line -/
def needsGuard : Inline → Bool
  | .roman t => startsWithCc (escText t)
  | _ => false

theorem shapeFrom_cons (prev : Option Inline) (x : Inline) (r : List Inline) :
    shapeFrom prev (x :: r) = ((!needsGuard x || offLineStart prev) && shapeFrom (some x) r) := by
  cases x <;> simp [shapeFrom, needsGuard]

theorem renderInlines_cons (als : Bool) (x : Inline) (r : List Inline) :
    renderInlines als (x :: r) = renderInlines als [x] ++ renderInlines false r := by
  cases x <;> simp [renderInlines]

theorem breaks_cons (x : Inline) (r : List Inline) : breaks (x :: r) = breaks [x] + breaks r := by
  cases x <;> simp [breaks]

/-- **one inline adds its own `.br` and nothing else**, read from physical state `st` with flag `als` (set only at a
line start): a roman text that starts with `.`/`'` must be guarded by the flag or not stand at a line start -/
theorem inline_cc (st als : Bool) (x : Inline) (h1 : als = true → st = true)
    (h2 : needsGuard x = true → st = true → als = true) :
    ccCount st (renderInlines als [x]) = breaks [x] := by
  cases x with
  | lineBreak =>
    -- `.br` is written at a line start when the flag is set, after a fresh newline otherwise: one request either way
    cases als
    · cases st <;> rfl
    · obtain rfl := h1 rfl
      rfl
  | roman t =>
    simp only [renderInlines, List.append_nil, ccCount_append, ccCount_escText, breaks]
    by_cases hc : startsWithCc (escText t) = true
    · cases als
      · cases st
        · simp [ccCount, endsAtLineStart]
        · simpa using h2 hc rfl
      · simp [hc, ccCount, isCc, endsAtLineStart]
    · simp [hc, ccCount]
  | bold t =>
    simp only [renderInlines, List.append_nil, ccCount_append, ccCount_escText, breaks]
    cases st <;> simp [ccCount, isCc, endsAtLineStart]
  | italic t =>
    simp only [renderInlines, List.append_nil, ccCount_append, ccCount_escText, breaks]
    cases st <;> simp [ccCount, isCc, endsAtLineStart]

/-- after an inline that leaves the line open, the scan is not at a line start -/
theorem inline_end (st als : Bool) (x : Inline) (h : offLineStart (some x) = true) : endsAtLineStart st (renderInlines als [x]) = false := by
  cases x with
  | lineBreak => simp [offLineStart] at h
  | roman t =>
    simp only [offLineStart, Bool.and_eq_true, Bool.not_eq_true', List.isEmpty_eq_false_iff] at h
    rw [renderInlines, renderInlines, List.append_nil, endsAtLineStart_append, endsAtLineStart_nonempty _ _ h.1]
    exact h.2
  | bold t => simp [renderInlines, endsAtLineStart_append, endsAtLineStart]
  | italic t => simp [renderInlines, endsAtLineStart_append, endsAtLineStart]

/-- the tail of a line (flag `at_line_start = false`), from ANY physical state allowed by the shape -/
theorem tail_cc (prev : Option Inline) (inl : List Inline) (st : Bool) (hs : shapeFrom prev inl = true)
    (hst : offLineStart prev = true → st = false) :
    ccCount st (renderInlines false inl ++ [10]) = breaks inl := by
  induction inl generalizing prev st with
  | nil => simp [renderInlines, ccCount, breaks, isCc]
  | cons x r ih =>
    rw [shapeFrom_cons, Bool.and_eq_true, Bool.or_eq_true, Bool.not_eq_true'] at hs
    rw [renderInlines_cons, List.append_assoc, ccCount_append, breaks_cons,
      inline_cc st false x (by simp) (fun hg hst' => by simp [hst (hs.1.resolve_left (by simp [hg]))] at hst'),
      ih (some x) _ hs.2 (inline_end st false x)]

/-- **a text line contributes exactly its `.br` requests**: whatever the texts of its inlines are,
the lines of its rendering that start with `.` or `'` are the generator's own line breaks -/
theorem text_line_cc (inl : List Inline) (hs : Shape inl = true) :
    ccCount true (renderLine (.text inl)) = breaks inl := by
  cases inl with
  | nil => rfl
  | cons x r =>
    rw [renderLine, renderInlines_cons, List.append_assoc, ccCount_append, breaks_cons,
      inline_cc true true x (fun _ => rfl) (fun _ _ => rfl), tail_cc (some x) r _ hs (inline_end true true x)]

theorem renderLine_endsAtLineStart (st : Bool) (l : Line) : endsAtLineStart st (renderLine l) = true := by
  cases l <;> rw [renderLine, endsAtLineStart_append] <;> rfl

/-! #### one control line -/

theorem mem_escapeSpaces (a : Bytes) (h : 10 ∉ a) : 10 ∉ escapeSpaces a := by
  unfold escapeSpaces; split <;> simp [h]

theorem mem_renderControlArgs (args : List Bytes) (h : ∀ a ∈ args, 10 ∉ a) : 10 ∉ renderControlArgs args := by
  induction args with
  | nil => simp [renderControlArgs]
  | cons a r ih =>
    simp only [renderControlArgs, List.mem_cons, List.mem_append, not_or]
    exact ⟨⟨by decide, mem_escapeSpaces a (h a List.mem_cons_self)⟩, ih fun x hx => h x (List.mem_cons_of_mem _ hx)⟩

def cleanControl (name : Bytes) (args : List Bytes) : Prop := 10 ∉ name ∧ ∀ a ∈ args, 10 ∉ a

/-- **a request whose name and arguments hold no newline is exactly one request line** -/
theorem control_line_cc (name : Bytes) (args : List Bytes) (h : cleanControl name args) :
    ccCount true (renderLine (.control name args)) = 1 := by
  have hnl : 10 ∉ name ++ renderControlArgs args :=
    fun hm => (List.mem_append.1 hm).elim h.1 (mem_renderControlArgs args h.2)
  rw [renderLine, List.append_assoc, List.cons_append, ccCount, ← List.append_assoc, ccCount_append,
    show ((46 : UInt8) == 10) = false from rfl, ccCount_noNl _ hnl]
  simp [ccCount, isCc]

/-! #### a whole page -/

def GoodLine : Line → Prop
  | .control n a => cleanControl n a
  | .text inl => Shape inl = true

def requests : List Line → Nat
  | [] => 0
  | .control _ _ :: r => 1 + requests r
  | .text inl :: r => breaks inl + requests r

theorem renderLines_cc (ls : List Line) (h : ∀ l ∈ ls, GoodLine l) : ccCount true (renderLines ls) = requests ls := by
  induction ls with
  | nil => rfl
  | cons l r ih =>
    simp only [renderLines]
    rw [ccCount_append, renderLine_endsAtLineStart, ih (fun x hx => h x (List.mem_cons_of_mem _ hx))]
    have hl := h l List.mem_cons_self
    cases l with
    | control n a => simp only [requests]; rw [control_line_cc n a hl]
    | text inl => simp only [requests]; rw [text_line_cc inl hl]

/-- **the request lines of a rendered document are exactly the generator's own**: the two preamble
lines, one per `control` element and one per `LineBreak` - for every choice of texts, provided the
lines have the shape and no request argument holds a newline -/
theorem render_cc (ls : List Line) (h : ∀ l ∈ ls, GoodLine l) : ccCount true (render ls) = 2 + requests ls := by
  unfold render
  have h1 : endsAtLineStart true preamble = true := by decide
  have h2 : ccCount true preamble = 2 := by decide
  rw [ccCount_append, h1, h2, renderLines_cc ls h]

/-! #### `clap_mangen`'s lines have the shape, and its request arguments hold no newline -/

theorem head_escapeNlApos (s : Bytes) : (escapeNlApos s).head? = s.head? := by
  cases s with
  | nil => rfl
  | cons b r =>
    simp only [escapeNlApos]
    split
    · next h => simp at h; simp [h.1]
    · rfl

/-- the first byte of `escape_inline`'s output is a backslash or the first byte of its input -/
theorem head_escapeInline (t : Bytes) (x : UInt8) (h : (escapeInline t).head? = some x) : x = 92 ∨ t.head? = some x := by
  cases t with
  | nil => cases h
  | cons b r =>
    rw [escapeInline] at h
    split at h
    · exact .inl (Option.some.inj h).symm
    · split at h
      · exact .inl (Option.some.inj h).symm
      · exact .inr h

/-- the first byte of `escape_apostrophes`' output is no apostrophe: a backslash, or the first byte of its input -/
theorem head_escapeApostrophes (s : Bytes) (x : UInt8) (h : (escapeApostrophes s).head? = some x) :
    x ≠ 39 ∧ (x = 92 ∨ s.head? = some x) := by
  cases s with
  | nil => cases h
  | cons b r =>
    rw [escapeApostrophes] at h
    split at h
    · obtain rfl := Option.some.inj h; exact ⟨by decide, .inl rfl⟩
    · next hb => obtain rfl := Option.some.inj h; exact ⟨by simpa using hb, .inr rfl⟩

/-- escaped text starts with a control character only if the text itself starts with `.` -/
theorem startsWithCc_escText (t : Bytes) (h : t.head? ≠ some 46) : startsWithCc (escText t) = false := by
  cases he : escText t with
  | nil => rfl
  | cons x xs =>
    have hx : (escapeApostrophes (escapeInline t)).head? = some x := by
      rw [← head_escapeNlDot, ← head_escapeNlApos, ← escText, he]; rfl
    obtain ⟨h39, h1⟩ := head_escapeApostrophes _ x hx
    have h46 : x ≠ 46 := by
      rintro rfl
      rcases h1 with h1 | h1
      · cases h1
      · rcases head_escapeInline t _ h1 with h2 | h2
        · cases h2
        · exact h h2
    simp [startsWithCc, isCc, h39, h46]
def safeInline : Inline → Bool
  | .roman t => t.head? != some 46
  | _ => true

theorem needsGuard_of_safe (x : Inline) (h : safeInline x = true) : needsGuard x = false := by
  cases x with
  | roman t => exact startsWithCc_escText t (by simpa [safeInline] using h)
  | _ => rfl

theorem shapeFrom_of_safe (prev : Option Inline) (xs : List Inline) (h : xs.all safeInline = true) : shapeFrom prev xs = true := by
  induction xs generalizing prev with
  | nil => rfl
  | cons x r ih =>
    rw [List.all_cons, Bool.and_eq_true] at h
    rw [shapeFrom_cons, needsGuard_of_safe x h.1, ih _ h.2]
    rfl

/-- a line none of whose roman texts starts with `.` -/
theorem shape_of_all_safe (xs : List Inline) (h : xs.all safeInline = true) : Shape xs = true := by
  cases xs with
  | nil => rfl
  | cons x r => exact shapeFrom_of_safe _ r (Bool.and_eq_true_iff.1 (List.all_cons ▸ h)).2

def GoodLines (ls : List Line) : Prop := ∀ l ∈ ls, GoodLine l

theorem good_nil : GoodLines [] := by intro l h; simp at h
theorem good_cons {l : Line} {ls : List Line} (h1 : GoodLine l) (h2 : GoodLines ls) : GoodLines (l :: ls) := by
  intro x hx; rcases List.mem_cons.1 hx with e | e; exact e ▸ h1; exact h2 x e
theorem good_append {a b : List Line} (h1 : GoodLines a) (h2 : GoodLines b) : GoodLines (a ++ b) := by
  intro x hx; rcases List.mem_append.1 hx with e | e; exact h1 x e; exact h2 x e
theorem good_flatMap {α : Type} (xs : List α) (f : α → List Line) (h : ∀ x ∈ xs, GoodLines (f x)) : GoodLines (xs.flatMap f) := by
  intro l hl; obtain ⟨x, hx, hm⟩ := List.mem_flatMap.1 hl; exact h x hx l hm
theorem good_map {α : Type} (xs : List α) (f : α → Line) (h : ∀ x ∈ xs, GoodLine (f x)) : GoodLines (xs.map f) := by
  intro l hl; obtain ⟨x, hx, rfl⟩ := List.mem_map.1 hl; exact h x hx
theorem good_ite {c : Prop} [Decidable c] {a b : List Line} (h1 : GoodLines a) (h2 : GoodLines b) : GoodLines (if c then a else b) := by
  split <;> assumption

theorem good_fixed (n : Bytes) (hn : 10 ∉ n) : GoodLine (.control n []) := ⟨hn, by simp⟩
theorem single_roman (t : Bytes) : GoodLine (.text [.roman t]) := by simp [GoodLine, Shape, shapeFrom]

/-- `.SH` with one argument, `.TP`, `.RE`: the requests written in more than one place -/
theorem good_SH (arg : Bytes) (h : 10 ∉ arg) : GoodLine (.control [83, 72] [arg]) :=
  ⟨by decide, fun a ha => List.mem_singleton.1 ha ▸ h⟩
theorem good_TP : GoodLine (.control [84, 80] []) := good_fixed _ (by decide)
theorem good_RE : GoodLine (.control [82, 69] []) := good_fixed _ (by decide)

theorem mem_controlArg (s : Bytes) : 10 ∉ controlArg s := by
  unfold controlArg
  simp only [List.mem_map, not_exists, not_and]
  intro b _
  split <;> simp_all

theorem markers_safe (r : Bool) : (markers r).1.head? ≠ some 46 ∧ (markers r).2.head? ≠ some 46 := by
  cases r <;> simp [markers]

/-- a run of inlines that is well-shaped after ANY predecessor (its first inline is safe) -/
def AnyPrev (xs : List Inline) : Prop := ∀ p, shapeFrom p xs = true

theorem anyPrev_nil : AnyPrev [] := fun _ => rfl

theorem shapeFrom_append (p : Option Inline) (xs ys : List Inline) (h1 : shapeFrom p xs = true) (h2 : AnyPrev ys) :
    shapeFrom p (xs ++ ys) = true := by
  induction xs generalizing p with
  | nil => exact h2 p
  | cons x r ih =>
    rw [shapeFrom_cons, Bool.and_eq_true] at h1
    rw [List.cons_append, shapeFrom_cons, h1.1, ih _ h1.2]
    rfl

theorem anyPrev_append {xs ys : List Inline} (h1 : AnyPrev xs) (h2 : AnyPrev ys) : AnyPrev (xs ++ ys) :=
  fun p => shapeFrom_append p xs ys (h1 p) h2

theorem anyPrev_flatMap {α : Type} (xs : List α) (f : α → List Inline) (h : ∀ x, AnyPrev (f x)) : AnyPrev (xs.flatMap f) := by
  induction xs with
  | nil => exact anyPrev_nil
  | cons x r ih => simp only [List.flatMap_cons]; exact anyPrev_append (h x) ih

theorem markers_open (r : Bool) : offLineStart (some (.roman (markers r).2)) = true := by cases r <;> decide

theorem synopsisOpt_anyPrev (a : MArg) : AnyPrev (synopsisOpt a) := by
  intro p
  have m1 := (markers_safe a.required).1
  have m2 := (markers_safe a.required).2
  have tail : ∀ q, offLineStart q = true →
      shapeFrom q ((if a.isCount then [.roman [46, 46, 46]] else []) ++ [.roman [32]]) = true := by
    intro q hq
    split <;> simp [shapeFrom, hq, startsWithCc_escText [32] (by decide)]
  unfold synopsisOpt
  cases a.short <;> cases a.long <;> simp only [List.cons_append, List.nil_append]
  · rfl
  all_goals simp [shapeFrom, startsWithCc_escText _ m1, startsWithCc_escText _ m2,
      startsWithCc_escText [124] (by decide), tail _ (markers_open a.required)]

theorem synopsisPos_anyPrev (a : MArg) : AnyPrev (synopsisPos a) := by
  intro p
  have m := markers_safe a.required
  simp [synopsisPos, shapeFrom, startsWithCc_escText _ m.1, startsWithCc_escText _ m.2, startsWithCc_escText [32] (by decide)]

theorem synopsis_good (c : MCmd) : GoodLine (synopsisLine c) := by
  unfold synopsisLine
  simp only [GoodLine, List.cons_append, List.nil_append, Shape, shapeFrom, startsWithCc_escText [32] (by decide),
    Bool.not_false, Bool.true_or, Bool.true_and]
  refine shapeFrom_append _ _ _ (shapeFrom_append _ _ _ (anyPrev_flatMap _ _ synopsisOpt_anyPrev _) (anyPrev_flatMap _ _ synopsisPos_anyPrev)) ?_
  intro p
  have m := markers_safe c.subRequired
  split
  · simp [shapeFrom, startsWithCc_escText _ m.1, startsWithCc_escText _ m.2]
  · rfl

theorem optionEnv_good (a : MArg) : GoodLines (optionEnv a) := by
  unfold optionEnv
  refine good_ite good_nil ?_
  cases a.env with
  | none => exact good_nil
  | some e =>
    refine good_cons (good_fixed _ (by decide)) (good_cons ?_ (good_cons good_RE good_nil))
    simp [GoodLine, Shape, shapeFrom, offLineStart]

theorem possibleLines_good (a : MArg) (w : Bool) : GoodLines (possibleLines a w) := by
  unfold possibleLines
  refine good_ite good_nil (good_ite good_nil (good_append (good_ite (good_cons rfl good_nil) good_nil)
    (good_ite ?_ (good_cons ?_ good_nil))))
  · refine good_cons rfl (good_cons ⟨by decide, by decide⟩ ?_)
    refine good_append (good_flatMap _ _ fun p _ => ?_) (good_cons good_RE good_nil)
    exact good_cons ⟨by decide, by decide⟩ (good_cons (single_roman _) good_nil)
  · -- `[LineBreak, roman "[", italic "possible values: ", roman (names), roman "]"]`: the names follow an italic
    simp [GoodLine, Shape, shapeFrom, offLineStart, startsWithCc_escText [91] (by decide),
      startsWithCc_escText [93] (by decide)]

theorem optionDefaults_safe (a : MArg) (d : Bytes) (h : optionDefaults a = some d) : d.head? ≠ some 46 := by
  unfold optionDefaults at h
  split at h
  · simp at h
  · split at h
    · simp at h; subst h; simp
    · simp at h

theorem optionLines_good (a : MArg) : GoodLines (optionLines a) := by
  unfold optionLines
  simp only
  refine good_cons good_TP (good_cons ?_ (good_cons ?_
    (good_append (possibleLines_good a _) (optionEnv_good a))))
  · -- the header: flags, value names, defaults; none of its roman texts starts with `.`
    refine shape_of_all_safe _ ?_
    simp only [List.all_append, Bool.and_eq_true]
    refine ⟨⟨?_, ?_⟩, ?_⟩
    · cases a.short <;> cases a.long <;> rfl
    · cases a.takesValues <;> cases a.valNames <;> rfl
    · cases hd : optionDefaults a with
      | none => rfl
      | some d => simp [safeInline, optionDefaults_safe a d hd]
  · cases optionHelp a with
    | none => simp [GoodLine, Shape]
    | some h => exact single_roman h

theorem positionalLines_good (a : MArg) : GoodLines (positionalLines a) := by
  unfold positionalLines
  simp only
  refine good_cons good_TP (good_cons ?_ (good_cons ?_
    (good_append (optionEnv_good a) (possibleLines_good a _))))
  · refine shape_of_all_safe _ ?_
    have hm := markers_safe a.required
    cases optionDefaults a <;> simp [safeInline, hm.1, hm.2]
  · cases optionHelp a with
    | none => simp [GoodLine, Shape]
    | some h => exact single_roman h

theorem optionsLines_good (items : List MArg) : GoodLines (optionsLines items) :=
  good_append (good_flatMap _ _ fun a _ => optionLines_good a) (good_flatMap _ _ fun a _ => positionalLines_good a)

theorem lines_map_good (s : Bytes) : GoodLines ((lines s).map fun l => Line.text [.roman l]) :=
  good_map _ _ fun l _ => single_roman l

/-- the VERSION section; `versionSection` guards its `unwrap` by `app_has_version`, so it never fails -/
def verLines (c : MCmd) : List Line :=
  match c.longVersion.or c.version with
  | some v => [.control [83, 72] [[86, 69, 82, 83, 73, 79, 78]], .text [.roman (118 :: v)]]
  | none => []

theorem versionSection_eq (c : MCmd) : versionSection c = some (verLines c) := by
  unfold versionSection verLines; cases c.version <;> cases c.longVersion <;> rfl

theorem verLines_good (c : MCmd) : GoodLines (verLines c) := by
  unfold verLines
  cases c.longVersion.or c.version with
  | none => exact good_nil
  | some v => exact good_cons (good_SH _ (by decide)) (good_cons (single_roman _) good_nil)

theorem descriptionLines_good (c : MCmd) : GoodLines (descriptionLines c) := by
  unfold descriptionLines
  cases c.longAbout.or c.about with
  | none => exact good_nil
  | some a =>
    refine good_map _ _ fun l _ => ?_
    split
    · exact good_fixed _ (by decide)
    · exact single_roman l

theorem optionsSection_good (c : MCmd) : GoodLines (optionsSection c) := by
  unfold optionsSection
  exact good_append (good_ite good_nil (good_cons (good_SH _ (by decide)) (optionsLines_good _)))
    (good_flatMap _ _ fun hd _ => good_cons (good_SH _ (mem_controlArg _)) (optionsLines_good _))

theorem subcommandsSection_good (c : MCmd) (n : Bytes) : GoodLines (subcommandsSection c n) := by
  unfold subcommandsSection
  refine good_cons (good_SH _ (mem_controlArg _)) (good_flatMap _ _ fun s _ => ?_)
  refine good_append (good_cons good_TP (good_cons (single_roman _) good_nil)) ?_
  cases s.about with
  | none => exact good_nil
  | some a => exact lines_map_good a

theorem extraSection_good (c : MCmd) : GoodLines (extraSection c) := by
  unfold extraSection
  cases c.afterLongHelp.or c.afterHelp with
  | none => exact good_nil
  | some a => exact good_cons (good_SH _ (by decide)) (lines_map_good a)

theorem authorsSection_good (c : MCmd) : GoodLines (authorsSection c) := by
  unfold authorsSection
  cases c.author with
  | none => exact good_nil
  | some a => exact good_cons (good_SH _ (by decide)) (good_cons (single_roman _) good_nil)

/-- **every line `clap_mangen` emits is well-shaped** and every request argument is newline-free,
for every command (all text slots arbitrary) -/
theorem manLines_good (c : MCmd) (ls : List Line) (h : manLines c = some ls) : GoodLines ls := by
  simp only [manLines, versionSection_eq, Option.some.injEq] at h
  subst h
  refine good_append (good_append (good_append (good_append (good_append (good_append (good_append ?_ ?_)
    (descriptionLines_good c)) (good_ite (optionsSection_good c) good_nil)) (good_ite (subcommandsSection_good c _) good_nil))
    (extraSection_good c)) (verLines_good c)) (authorsSection_good c)
  · -- .TH, .SH NAME, the NAME line
    refine good_cons ⟨by decide, ?_⟩ (good_cons (good_SH _ (by decide)) (good_cons (single_roman _) good_nil))
    intro a ha
    simp only [List.mem_cons, List.mem_nil_iff, or_false] at ha
    rcases ha with rfl | rfl | rfl | rfl | rfl <;> exact mem_controlArg _
  · exact good_cons (good_SH _ (by decide)) (good_cons (synopsis_good c) (good_cons (good_SH _ (by decide)) good_nil))

/-- **rendering never panics**: the `unwrap` in `render::version` is reached only under `app_has_version` -/
theorem render_total (c : MCmd) : (manPage c).isSome = true := by
  unfold manPage manLines; rw [versionSection_eq]; rfl

/-- **user text is only ever text**: in the rendered man page of ANY command - every text slot
(name, about, help, after-help, author, version, value names, possible values, headings …) holding
arbitrary bytes - the lines that roff reads as requests are exactly the two preamble lines, the
generator's own `control` elements and its own line breaks. -/
theorem man_page_requests (c : MCmd) (ls : List Line) (h : manLines c = some ls) :
    ccCount true (Roff.render ls) = 2 + requests ls :=
  render_cc ls (manLines_good c ls h)

/-! #### hidden items contribute nothing; visible ones are named -/

/-- **hidden args are invisible to the generator**: deleting every `hide(true)` arg from the command
leaves the page unchanged - so nothing on the page can derive from a hidden arg -/
theorem hidden_args_invisible (c : MCmd) : manLines { c with args := c.args.filter (!·.hide) } = manLines c := by
  have h1 : (c.args.filter (!·.hide)).filter (!·.hide) = c.args.filter (!·.hide) := by
    simp [List.filter_filter]
  have h2 : ((c.args.filter (!·.hide)).filter (·.isPositional)).filter (!·.hide) = (c.args.filter (·.isPositional)).filter (!·.hide) := by
    simp only [List.filter_filter]
    exact List.filter_congr fun a _ => by cases a.hide <;> cases a.isPositional <;> rfl
  have h3 : (c.args.filter (!·.hide)).any (!·.hide) = c.args.any (!·.hide) := by simp [List.any_filter]
  unfold manLines
  simp only [versionSection, dn, synopsisLine, optionsSection, subcommandsSection, subcommandHeading, aboutLines,
    descriptionLines, extraSection, authorsSection, h1, h2, h3]

/-- hidden subcommands are skipped by the SUBCOMMANDS section -/
theorem hidden_subs_unlisted (c : MCmd) (n : Bytes) :
    subcommandsSection { c with subs := c.subs.filter (!·.hide) } n = subcommandsSection c n := by
  simp [subcommandsSection, subcommandHeading, dn, List.filter_filter]

theorem mem_optionsLines {a : MArg} {items : List MArg} (hi : a ∈ items) {l : Line}
    (hl : l ∈ if a.isPositional then positionalLines a else optionLines a) : l ∈ optionsLines items := by
  unfold optionsLines
  split at hl
  · next hp => exact List.mem_append_right _ (List.mem_flatMap.2 ⟨a, List.mem_filter.2 ⟨hi, hp⟩, hl⟩)
  · next hp => exact List.mem_append_left _ (List.mem_flatMap.2 ⟨a, List.mem_filter.2 ⟨hi, by simpa using hp⟩, hl⟩)

/-- every line written for a visible arg is on the page -/
theorem visible_arg_lines_on_page (c : MCmd) (ls : List Line) (h : manLines c = some ls) (a : MArg) (ha : a ∈ c.args)
    (hv : a.hide = false) :
    ∀ l ∈ (if a.isPositional then positionalLines a else optionLines a), l ∈ ls := by
  intro l hl
  have hvis : a ∈ c.args.filter (!·.hide) := List.mem_filter.2 ⟨ha, by simp [hv]⟩
  -- the arg is listed under OPTIONS if it has no heading, under its heading otherwise
  have hsec : l ∈ optionsSection c := by
    unfold optionsSection
    cases hh : a.heading with
    | none =>
      have hpl : a ∈ (c.args.filter (!·.hide)).filter (·.heading.isNone) := List.mem_filter.2 ⟨hvis, by simp [hh]⟩
      simp only [List.isEmpty_iff, List.ne_nil_of_mem hpl, ↓reduceIte]
      exact List.mem_append_left _ (List.mem_cons_of_mem _ (mem_optionsLines hpl hl))
    | some hd =>
      refine List.mem_append_right _ (List.mem_flatMap.2 ⟨hd, ?_,
        List.mem_cons_of_mem _ (mem_optionsLines (List.mem_filter.2 ⟨hvis, by simp [hh]⟩) hl)⟩)
      exact (mem_foldl_insertNew _ _ _).2 (.inr (List.mem_filterMap.2 ⟨a, hvis, hh⟩))
  have hany : c.args.any (!·.hide) = true := List.any_eq_true.2 ⟨a, ha, by simp [hv]⟩
  simp only [manLines, versionSection_eq, Option.some.injEq, hany, ↓reduceIte] at h
  subst h
  simp only [List.mem_append]
  exact .inl (.inl (.inl (.inl (.inr hsec))))

/-- the second line of a visible arg's entry, its header, is on the page -/
theorem header_on_page (c : MCmd) (ls : List Line) (h : manLines c = some ls) (a : MArg) (ha : a ∈ c.args) (hv : a.hide = false)
    {l0 hdr : Line} {rest : List Line}
    (he : (if a.isPositional then positionalLines a else optionLines a) = l0 :: hdr :: rest) : hdr ∈ ls :=
  visible_arg_lines_on_page c ls h a ha hv hdr (he ▸ List.mem_cons_of_mem _ List.mem_cons_self)

/-- **a visible option is named by its long flag** (in bold, in the header line of its entry) -/
theorem visible_long_named (c : MCmd) (ls : List Line) (h : manLines c = some ls) (a : MArg) (ha : a ∈ c.args)
    (hv : a.hide = false) (l : Bytes) (hl : a.long = some l) :
    ∃ inl, Line.text inl ∈ ls ∧ Inline.bold ([45, 45] ++ l) ∈ inl := by
  have hp : a.isPositional = false := by simp [MArg.isPositional, hl]
  refine ⟨_, header_on_page c ls h a ha hv (by rw [hp]; rfl), ?_⟩
  cases hs : a.short <;> simp [hl]

/-- **a visible option without a long flag is named by its short flag** -/
theorem visible_short_named (c : MCmd) (ls : List Line) (h : manLines c = some ls) (a : MArg) (ha : a ∈ c.args)
    (hv : a.hide = false) (sh : Bytes) (hs : a.short = some sh) :
    ∃ inl, Line.text inl ∈ ls ∧ Inline.bold (45 :: sh) ∈ inl := by
  have hp : a.isPositional = false := by simp [MArg.isPositional, hs]
  refine ⟨_, header_on_page c ls h a ha hv (by rw [hp]; rfl), ?_⟩
  cases hl : a.long <;> simp [hs]

/-- **a visible positional is named by its value names (or its id)** -/
theorem visible_positional_named (c : MCmd) (ls : List Line) (h : manLines c = some ls) (a : MArg) (ha : a ∈ c.args)
    (hv : a.hide = false) (hp : a.isPositional = true) :
    ∃ inl, Line.text inl ∈ ls ∧ Inline.italic (valueLabel a) ∈ inl := by
  exact ⟨_, header_on_page c ls h a ha hv (by rw [hp]; rfl), by simp⟩

/-- **a visible subcommand is named** (`<name>-<sub>(<section>)`) -/
theorem visible_sub_named (c : MCmd) (ls : List Line) (h : manLines c = some ls) (s : MSub) (hs : s ∈ c.subs)
    (hv : s.hide = false) :
    Line.text [.roman (dn c ++ [45] ++ s.name ++ [40] ++ c.ovSection.getD [49] ++ [41])] ∈ ls := by
  have hany : c.subs.any (!·.hide) = true := List.any_eq_true.2 ⟨s, hs, by simp [hv]⟩
  simp only [manLines, versionSection_eq, Option.some.injEq, hany, ↓reduceIte] at h
  subst h
  simp only [List.mem_append]
  left; left; left; right
  unfold subcommandsSection
  refine List.mem_cons_of_mem _ (List.mem_flatMap.2 ⟨s, List.mem_filter.2 ⟨hs, by simp [hv]⟩, ?_⟩)
  simp

/-! #### non-vacuity: a page with adversarial text in a text slot -/

def sampleCmd : MCmd := { name := [112], about := some [46, 83, 72, 32, 88, 10, 46, 115, 111] }  -- about = ".SH X\n.so"
example : ∃ ls, manLines sampleCmd = some ls ∧ ccCount true (Roff.render ls) = 2 + requests ls ∧ requests ls = 4 :=
  ⟨_, rfl, by decide +kernel, by decide +kernel⟩

end Clap.C19

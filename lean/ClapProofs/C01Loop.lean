/-
C01 — what `parse_opt_value`, `parse_long_arg`, the flag loop and `parse_short_arg` hand back to the token loop, and
the invariants of that loop: one outcome lemma per function.
-/
import ClapProofs.C01
import ClapProofs.Lemmas.Lookup
namespace Clap.C01
open Clap Parser

/-! #### `parse_opt_value` -/

/-- no revisit count is touched, and whatever is pending in `p1` was pending in `p` or satisfies `N` -/
def PendFrom (N : Pending → Prop) (p p1 : P) : Prop :=
  p1.flagSubSkip = p.flagSubSkip ∧ ∀ pd, p1.pending = some pd → p.pending = some pd ∨ N pd

theorem PendFrom.refl (N : Pending → Prop) (p : P) : PendFrom N p p := ⟨rfl, fun _ h => Or.inl h⟩

theorem PendFrom.of_stored {N : Pending → Prop} {p p1 : P} (h : P.Stored { p with pending := none } p1) : PendFrom N p p1 :=
  ⟨h.flagSubSkip, fun pd hpd => by rw [h.pending] at hpd; cases hpd⟩

/-- **`parse_opt_value`**: it never panics (so its two `debug_assert_eq!`s hold); it answers `Opt(id)` with the arg
pending, `EqualsNotProvided` with the state untouched, or - after storing values, nothing pending - `ValuesDone`,
or `AttachedValueNotConsumed` when there was an attached value and no `=` (never on the long path) -/
theorem parseOptValue_out (c : Cmd) (ident : Ident) (attached : Option Bytes) (a : Arg) (hasEq : Bool) (p : P) :
    Out (PendFrom (fun pd => pd.id = a.id ∧ pd.ident = some ident) p) (fun e => PendingOk c p → isPanic e = false)
      (fun p1 r => (r = .opt a.id ∧ ∃ pd, p1.pending = some pd ∧ pd.id = a.id) ∨ (r = .equalsNotProvided ∧ p1 = p) ∨
        ((r = .valuesDone ∨ (r = .attachedValueNotConsumed ∧ hasEq = false ∧ attached.isSome = true)) ∧
          p1.pending = none))
      (parseOptValue c ident attached a hasEq p) := by
  have hvd : (ParseResult.valuesDone != ParseResult.valuesDone) = false := by decide
  unfold parseOptValue
  refine .ite (fun hreq => .ite (fun _ => ?_) fun _ => Out.ok (.refl _ p) (Or.inr (Or.inl ⟨rfl, rfl⟩))) fun _ => ?_
  · rcases (react_out c (some ident) .cmdline a [] none p).elim with ⟨p1, e, hr, h1, he⟩ | ⟨p1, r, hr, h1, rfl⟩ <;>
      simp only [hr]
    · exact Out.error (.of_stored h1) he
    · simp only [hvd, Bool.false_eq_true, ↓reduceIte]
      refine Out.ok (.of_stored h1) (Or.inr (Or.inr ⟨?_, h1.pending⟩))
      cases hatt : attached.isSome
      · exact Or.inl rfl
      · exact Or.inr ⟨rfl, by simpa using (Bool.and_eq_true_iff.1 hreq).2, rfl⟩
  · cases attached with
    | some v =>
      simp only
      rcases (react_out c (some ident) .cmdline a [v] none p).elim with ⟨p1, e, hr, h1, he⟩ | ⟨p1, r, hr, h1, rfl⟩ <;>
        simp only [hr]
      · exact Out.error (.of_stored h1) he
      · simp only [hvd, Bool.false_eq_true, ↓reduceIte]
        exact Out.ok (.of_stored h1) (Or.inr (Or.inr ⟨Or.inl rfl, h1.pending⟩))
    | none =>
      simp only
      rcases (resolvePending_out c p).elim with ⟨p1, e, hr, h1, he⟩ | ⟨p1, _, hr, h1, _⟩ <;> simp only [hr]
      · exact Out.error (.of_stored h1) he
      · have hn : p1.pending = none := h1.pending
        unfold pendingPush
        simp only [hn, Option.getD_none, bne_self_eq_false, Bool.false_eq_true, ↓reduceIte, Option.isSome_some,
          Bool.true_and]
        exact Out.ok ⟨h1.flagSubSkip, fun pd hpd => by cases hpd; exact Or.inr ⟨rfl, rfl⟩⟩ (Or.inl ⟨rfl, _, rfl, rfl⟩)

end Clap.C01

namespace Clap
open Parser

/-- `parse_opt_value` when `require_equals` does not interfere -/
theorem parseOptValue_plain (c : Cmd) (ident : Ident) (attached : Option Bytes) (a : Arg) (hasEq : Bool) (p : P)
    (hreq : (a.requireEquals && !hasEq) = false) :
    parseOptValue c ident attached a hasEq p =
      match attached with
      | some v =>
        match react c (some ident) .cmdline a [v] none p with
        | (p1, .error e) => (p1, .error e)
        | (p1, .ok _) => (p1, .ok .valuesDone)
      | none =>
        match resolvePending c p with
        | (q, .error e) => (q, .error e)
        | (q, .ok ()) => ({ q with pending := some { id := a.id, ident := some ident, rawVals := [], trailingIdx := none } }, .ok (.opt a.id)) := by
  unfold parseOptValue
  simp only [hreq, Bool.false_eq_true, ↓reduceIte]
  cases attached with
  | some v =>
    simp only
    rcases (C01.react_out c (some ident) .cmdline a [v] none p).elim with ⟨p1, e, hr, _, _⟩ | ⟨p1, r, hr, _, rfl⟩ <;>
      simp only [hr]
    rfl
  | none =>
    simp only
    rcases (C01.resolvePending_out c p).elim with ⟨q, e, hr, _, _⟩ | ⟨q, _, hr, hq, _⟩ <;> simp only [hr]
    simp [pendingPush, hq.pending]

end Clap

namespace Clap.C01
open Clap Parser

/-! #### the invariant of the token loop -/

/-- the pending arg is an arg of the command, positional exactly when it was started by index -/
def PendInv (c : Cmd) (p : P) : Prop :=
  ∀ pd, p.pending = some pd → ∃ a, c.find pd.id = some a ∧ (pd.ident = some .index ∨ a.index = none)

/-- the loop's state: no flag-subcommand revisit is in progress at this level, and `PendInv` -/
def PInv (c : Cmd) (p : P) : Prop := p.flagSubSkip = 0 ∧ PendInv c p

theorem PendInv.pendingOk {c : Cmd} {p : P} (h : PendInv c p) : PendingOk c p := by
  intro pd hpd
  obtain ⟨a, ha, _⟩ := h pd hpd
  simp [ha]

theorem PInv.pendingOk {c : Cmd} {p : P} (h : PInv c p) : PendingOk c p := h.2.pendingOk

theorem PendFrom.inv {N : Pending → Prop} {c : Cmd} {p p1 : P} (h : PendFrom N p p1) (hp : PInv c p)
    (hN : ∀ pd, N pd → ∃ a, c.find pd.id = some a ∧ (pd.ident = some .index ∨ a.index = none)) : PInv c p1 :=
  ⟨h.1.trans hp.1, fun pd hpd => (h.2 pd hpd).elim (hp.2 pd) (hN pd)⟩

theorem PInv.resolve {c : Cmd} {p : P} (h : PInv c p) : PInv c (resolvePending c p).1 :=
  (PendFrom.of_stored (N := fun _ => False) (resolvePending_stored c p)).inv h fun _ hf => hf.elim

/-- what `parse_long_arg` can answer, and in which state -/
def LongAns (c : Cmd) (longArg : Bytes) (u vaf : Bool) (p p1 : P) (r : ParseResult) (v : Bool) : Prop :=
  (r = .maybeHyphenValue ∧ p1 = p ∧ v = vaf) ∨
  (r = .noMatchingArg ∧ p1 = p ∧ (u = false ∨ findLong c longArg = none ∧ possibleLongFlagSubcommand c longArg = none)) ∨
  (∃ n, r = .flagSubCommand n ∧ p1 = p ∧ possibleLongFlagSubcommand c longArg = some n) ∨
  (∃ a, findLong c longArg = some a ∧ v = true ∧
    (r = .unneededAttachedValue ∨ r = .equalsNotProvided ∨ r = .valuesDone ∧ p1.pending = none ∨
      r = .opt a.id ∧ ∃ pd, p1.pending = some pd ∧ pd.id = a.id))

/-- the pending arg a long flag can leave behind -/
def LongPend (c : Cmd) (longArg : Bytes) (pd : Pending) : Prop :=
  ∃ a, findLong c longArg = some a ∧ pd.id = a.id ∧ pd.ident = some .long

/-- **`parse_long_arg`**: it panics only when the parse state names no arg or `--` itself reaches it; what is
pending afterwards was pending before or is the option just named; the answers are those of `LongAns` -/
theorem parseLongArg_out (c : Cmd) (longArg : Bytes) (u : Bool) (longValue : Option Bytes) (st : ParseState)
    (pc : Nat) (vaf : Bool) (p : P) :
    Out (PendFrom (LongPend c longArg) p)
      (fun e => PendingOk c p → isPanic e = true →
        stateArg c st = none ∨ (longArg.isEmpty && longValue.isNone) = true)
      (fun p1 rv => LongAns c longArg u vaf p p1 rv.1 rv.2)
      (parseLongArg c longArg u longValue st pc vaf p) := by
  have np : ∀ {e : EK}, (PendingOk c p → isPanic e = false) → PendingOk c p → isPanic e = true →
      stateArg c st = none ∨ (longArg.isEmpty && longValue.isNone) = true :=
    fun h hp h' => by rw [h hp] at h'; cases h'
  unfold parseLongArg
  split
  · next h => exact Out.error (.refl _ p) fun _ _ => Or.inl h
  next sa _ =>
  refine .ite (fun _ => Out.ok (.refl _ p) (Or.inl ⟨rfl, rfl, rfl⟩)) fun _ => ?_
  refine .ite (fun hu => Out.ok (.refl _ p) (Or.inr (Or.inl ⟨rfl, rfl, Or.inl (by simpa using hu)⟩))) fun _ => ?_
  refine .ite (fun h => Out.error (.refl _ p) fun _ _ => Or.inr h) fun _ => ?_
  cases hf : findLong c longArg with
  | some a =>
    simp only
    refine .ite (fun _ => ?_) fun _ => .ite (fun _ => Out.ok (.refl _ p) (Or.inr (Or.inr (Or.inr ⟨a, hf, rfl, Or.inl rfl⟩))))
      fun _ => ?_
    · rcases (parseOptValue_out c .long longValue a longValue.isSome p).elim with
        ⟨p1, e, hr, h1, he⟩ | ⟨p1, r, hr, h1, hq⟩ <;> simp only [hr]
      · exact Out.error ⟨h1.1, fun pd hpd => (h1.2 pd hpd).imp_right fun h => ⟨a, hf, h⟩⟩ (np he)
      · refine Out.ok ⟨h1.1, fun pd hpd => (h1.2 pd hpd).imp_right fun h => ⟨a, hf, h⟩⟩
          (Or.inr (Or.inr (Or.inr ⟨a, hf, rfl, ?_⟩)))
        rcases hq with h | ⟨h, _⟩ | ⟨h | ⟨_, h, h'⟩, hn⟩
        · exact Or.inr (Or.inr (Or.inr h))
        · exact Or.inr (Or.inl h)
        · exact Or.inr (Or.inr (Or.inl ⟨h, hn⟩))
        · rw [h'] at h; cases h
    · rcases (react_out c (some .long) .cmdline a [] none p).elim with
        ⟨p1, e, hr, h1, he⟩ | ⟨p1, r, hr, h1, rfl⟩ <;> simp only [hr]
      · exact Out.error (.of_stored h1) (np he)
      · exact Out.ok (.of_stored h1) (Or.inr (Or.inr (Or.inr ⟨a, hf, rfl, Or.inr (Or.inr (Or.inl ⟨rfl, h1.pending⟩))⟩)))
  | none =>
    simp only
    cases hn : possibleLongFlagSubcommand c longArg with
    | some n => exact Out.ok (.refl _ p) (Or.inr (Or.inr (Or.inl ⟨n, rfl, rfl, hn⟩)))
    | none =>
      exact .ite (fun _ => Out.ok (.refl _ p) (Or.inl ⟨rfl, rfl, rfl⟩))
        fun _ => Out.ok (.refl _ p) (Or.inr (Or.inl ⟨rfl, rfl, Or.inr ⟨hf, hn⟩⟩))

/-- what the flag loop can answer once it has moved, and in which state; `bound` limits the revisit count -/
def ShortAns (c : Cmd) (sf : ShortFlags) (bound : Nat) (p1 : P) (r : ParseResult) : Prop :=
  ((r = .noArg ∨ r = .valuesDone) ∧ p1.pending = none) ∨
  r = .equalsNotProvided ∨
  (r = .noMatchingArg ∧
    (sf.invalid.isSome = true ∨ ∃ ch ∈ sf.chars, c.getShort ch = none ∧ c.findShortSubcmd ch = none)) ∨
  (∃ n ch, r = .flagSubCommand n ∧ ch ∈ sf.chars ∧ c.findShortSubcmd ch = some n ∧ p1.flagSubConsumed ≤ bound ∧
    p1.pending = none) ∨
  (∃ a ch, ch ∈ sf.chars ∧ c.getShort ch = some a ∧ r = .opt a.id ∧ ∃ pd, p1.pending = some pd ∧ pd.id = a.id)

theorem ShortAns.mono {c : Cmd} {sf sf1 : ShortFlags} {b b' : Nat} {p1 : P} {r : ParseResult}
    (hm : ∀ x, x ∈ sf1.chars → x ∈ sf.chars) (hi : sf1.invalid = sf.invalid) (hb : b ≤ b')
    (h : ShortAns c sf1 b p1 r) : ShortAns c sf b' p1 r := by
  rcases h with h | h | ⟨h, h'⟩ | ⟨n, x, h, hx, h1, h2, h3⟩ | ⟨a, x, hx, h'⟩
  · exact Or.inl h
  · exact Or.inr (Or.inl h)
  · refine Or.inr (Or.inr (Or.inl ⟨h, ?_⟩))
    rcases h' with h' | ⟨x, hx, h'⟩
    · exact Or.inl (hi ▸ h')
    · exact Or.inr ⟨x, hm x hx, h'⟩
  · exact Or.inr (Or.inr (Or.inr (Or.inl ⟨n, x, h, hm x hx, h1, Nat.le_trans h2 hb, h3⟩)))
  · exact Or.inr (Or.inr (Or.inr (Or.inr ⟨a, x, hm x hx, h'⟩)))

/-- the pending arg a cluster can leave behind -/
def ShortPend (c : Cmd) (pd : Pending) : Prop := ∃ a ch, c.getShort ch = some a ∧ pd.id = a.id ∧ pd.ident = some .short

/-- **the flag loop of `parse_short_arg`**: never panics; hands back its `ret` with the state untouched, or one of
the answers of `ShortAns` -/
theorem shortLoop_out (c : Cmd) : ∀ (fuel : Nat) (sf : ShortFlags) (consumed : Nat) (ret : ParseResult)
    (vaf : Bool) (p : P), (ret = .noArg ∨ ret = .valuesDone) →
    Out (PendFrom (ShortPend c) p) (fun e => PendingOk c p → isPanic e = false)
      (fun p1 rv => (rv.1 = ret ∧ p1 = p) ∨ ShortAns c sf (consumed + sf.chars.length) p1 rv.1)
      (shortLoop c sf fuel consumed ret vaf p) := by
  intro fuel
  induction fuel with
  | zero => intro sf consumed ret vaf p _; unfold shortLoop; exact Out.ok (.refl _ p) (Or.inl ⟨rfl, rfl⟩)
  | succ fuel ih =>
    intro sf consumed ret vaf p hret
    have hrefl := PendFrom.refl (ShortPend c) p
    -- the rest of the cluster, after a step that left nothing pending
    have next : ∀ {sf1 : ShortFlags} {ch : Bytes} {p1 : P} (ret' : ParseResult), sf.nextFlag = (sf1, .ch ch) →
        p1.flagSubSkip = p.flagSubSkip → p1.pending = none → (ret' = .noArg ∨ ret' = .valuesDone) →
        Out (PendFrom (ShortPend c) p) (fun e => PendingOk c p → isPanic e = false)
          (fun p2 rv => (rv.1 = ret ∧ p2 = p) ∨ ShortAns c sf (consumed + sf.chars.length) p2 rv.1)
          (shortLoop c sf1 fuel (consumed + 1) ret' true p1) := by
      intro sf1 ch p1 ret' hnf hfs hn hret'
      have hc := ShortFlags.nextFlag_ch hnf
      refine (ih sf1 (consumed + 1) ret' true p1 hret').mono
        (fun p2 h2 => ⟨h2.1.trans hfs, fun pd hpd => (h2.2 pd hpd).imp_left fun h => by rw [hn] at h; cases h⟩)
        (fun _ h _ => h (PendingOk.of_none hn)) (fun p2 rv _ h => Or.inr (ShortAns.mono (b := consumed + 1 + sf1.chars.length)
          (fun x hx => by rw [hc.1]; exact List.mem_cons_of_mem _ hx) hc.2 (by rw [hc.1]; simp; omega) ?_))
      rcases h with ⟨h, rfl⟩ | h
      · exact Or.inl ⟨h ▸ hret', hn⟩
      · exact h
    unfold shortLoop
    simp only
    split
    · exact Out.ok hrefl (Or.inl ⟨rfl, rfl⟩)
    · next hnf => exact Out.ok hrefl (Or.inr (Or.inr (Or.inr (Or.inl ⟨rfl, Or.inl (ShortFlags.nextFlag_bad hnf)⟩))))
    · next sf1 ch hnf =>
      have hmem : ch ∈ sf.chars := by rw [(ShortFlags.nextFlag_ch hnf).1]; exact List.mem_cons_self
      cases hg : c.getShort ch with
      | some a =>
        simp only
        refine .ite (fun _ => ?_) fun _ => ?_
        · rcases (react_out c (some .short) .cmdline a [] none p).elim with ⟨p1, e, hr, h1, he⟩ | ⟨p1, r, hr, h1, rfl⟩ <;>
            simp only [hr]
          · exact Out.error (.of_stored h1) he
          · exact next .valuesDone hnf h1.flagSubSkip h1.pending (Or.inr rfl)
        · generalize shortAttached sf1 = vh
          rcases (parseOptValue_out c .short vh.1 a vh.2 p).elim with ⟨p1, e, hr, h1, he⟩ | ⟨p1, r, hr, h1, hq⟩ <;>
            simp only [hr]
          · exact Out.error ⟨h1.1, fun pd hpd => (h1.2 pd hpd).imp_right fun h => ⟨a, ch, hg, h⟩⟩ he
          · have hI : PendFrom (ShortPend c) p p1 :=
              ⟨h1.1, fun pd hpd => (h1.2 pd hpd).imp_right fun h => ⟨a, ch, hg, h⟩⟩
            rcases hq with ⟨rfl, hpd⟩ | ⟨rfl, _⟩ | ⟨rfl | ⟨rfl, _⟩, hn⟩
            · exact Out.ok hI (Or.inr (Or.inr (Or.inr (Or.inr (Or.inr ⟨a, ch, hmem, hg, rfl, hpd⟩)))))
            · exact Out.ok hI (Or.inr (Or.inr (Or.inl rfl)))
            · exact Out.ok hI (Or.inr (Or.inl ⟨Or.inr rfl, hn⟩))
            · exact next ret hnf h1.1 hn hret
      | none =>
        simp only
        cases hname : c.findShortSubcmd ch with
        | some name =>
          simp only
          rcases (resolvePending_out c p).elim with ⟨p1, e, hr, h1, he⟩ | ⟨p1, _, hr, h1, _⟩ <;> simp only [hr]
          · exact Out.error (.of_stored h1) he
          · refine Out.ok ⟨h1.flagSubSkip, fun pd hpd => ?_⟩
              (Or.inr (Or.inr (Or.inr (Or.inr (Or.inl ⟨name, ch, rfl, hmem, hname, ?_, h1.pending⟩)))))
            · have : p1.pending = some pd := hpd
              rw [h1.pending] at this; cases this
            · rw [(ShortFlags.nextFlag_ch hnf).1]; simp
        | none => exact Out.ok hrefl (Or.inr (Or.inr (Or.inr (Or.inl ⟨rfl, Or.inr ⟨ch, hmem, hg, hname⟩⟩))))

/-- **`parse_short_arg`**, also when it revisits a cluster after a flag subcommand: afterwards no revisit is in
progress; it never panics; it answers `MaybeHyphenValue` with the state untouched, `NoArg` having only reset the
revisit count, or as `ShortAns` says -/
theorem parseShortArg_out (c : Cmd) (sf : ShortFlags) (st : ParseState) (pc : Nat) (vaf : Bool) (p : P)
    (hf : p.flagSubSkip ≤ sf.chars.length) (hst : stateArg c st ≠ none) :
    Out (fun p1 => p1.flagSubSkip = 0 ∧ ∀ pd, p1.pending = some pd → p.pending = some pd ∨ ShortPend c pd)
      (fun e => PendingOk c p → isPanic e = false)
      (fun p1 rv => (rv.1 = .maybeHyphenValue ∧ p1 = p) ∨ (rv.1 = .noArg ∧ p1 = { p with flagSubSkip := 0 }) ∨
        ShortAns c sf sf.chars.length p1 rv.1)
      (parseShortArg c sf st pc vaf p) := by
  unfold parseShortArg
  split
  · next h => exact absurd h hst
  simp only
  -- the early answers are given only when no revisit is in progress
  have lit : ∀ {b : Bool}, (!(p.flagSubSkip != 0) && b) = true → p.flagSubSkip = 0 := fun h => by simpa using (Bool.and_eq_true_iff.1 h).1
  refine .ite (fun hc => Out.ok ⟨lit hc, fun _ h => Or.inl h⟩ (Or.inl ⟨rfl, rfl⟩)) fun _ => ?_
  refine .ite (fun hc => Out.ok ⟨lit (Bool.and_eq_true_iff.1 hc).1, fun _ h => Or.inl h⟩ (Or.inl ⟨rfl, rfl⟩)) fun _ => ?_
  refine .ite (fun hc => Out.ok ⟨lit (Bool.and_eq_true_iff.1 hc).1, fun _ h => Or.inl h⟩ (Or.inl ⟨rfl, rfl⟩)) fun _ => ?_
  obtain ⟨sf1, hadv, hlen, hsub, hinv⟩ := ShortFlags.advanceBy_sub p.flagSubSkip 0 sf hf
  rw [hadv]
  simp only
  refine (shortLoop_out c _ sf1 p.flagSubSkip .noArg vaf { p with flagSubSkip := 0 } (Or.inl rfl)).mono
    (fun p1 h => h) (fun _ h => h) (fun p1 rv _ h => ?_)
  rcases h with h | h
  · exact Or.inr (Or.inl h)
  · exact Or.inr (Or.inr (h.mono hsub hinv (by omega)))

end Clap.C01

namespace Clap
open Parser

/-- `parse_long_arg` in the ground state on a name that `findLong` resolves -/
theorem parseLongArg_found {c : Cmd} {longArg : Bytes} {longValue : Option Bytes} {a : Arg} (pc : Nat) (vaf : Bool) (p : P)
    (hne : (longArg.isEmpty && longValue.isNone) = false) (hf : findLong c longArg = some a) :
    parseLongArg c longArg true longValue .valuesDone pc vaf p =
      if a.takesValue then
        match parseOptValue c .long longValue a longValue.isSome p with
        | (p1, .error e) => (p1, .error e)
        | (p1, .ok r) => (p1, .ok (r, true))
      else if longValue.isSome then (p, .ok (.unneededAttachedValue, true))
      else
        match react c (some .long) .cmdline a [] none p with
        | (p1, .error e) => (p1, .error e)
        | (p1, .ok r) => (p1, .ok (r, true)) := by
  simp only [parseLongArg, stateArg, Option.map_none, Option.getD_none, Bool.false_eq_true, ↓reduceIte, Bool.not_true, hne, hf]
  split
  · rcases parseOptValue c .long longValue a longValue.isSome p with ⟨p1, _ | r⟩ <;> rfl
  · split
    · rfl
    · rcases react c (some .long) .cmdline a [] none p with ⟨p1, _ | r⟩ <;> rfl

end Clap

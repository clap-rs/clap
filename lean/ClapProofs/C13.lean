/-
C13 — Lexing any OS string is a lossless, consistent decomposition.
The byte-string and UTF-8 lemmas are in `ClapProofs/Lemmas`; the invariant of the short-flag walk (`Inv`,
`unread`) and its step lemmas are here.  All statements quantify over every byte string (no length bound).
-/
import ClapProofs.Lemmas.L0
import ClapProofs.Lemmas.Utf8L
namespace Clap.C13
open Clap Bytes ParsedArg

/-! #### 1. the classifications are mutually consistent -/

theorem isEscape_iff (b : Bytes) : isEscape b = true ↔ b = [dash, dash] := by simp [isEscape]
theorem isStdio_iff (b : Bytes) : isStdio b = true ↔ b = [dash] := by simp [isStdio]

theorem isLong_iff_toLong (b : Bytes) : isLong b = (toLong b).isSome := by
  unfold isLong toLong
  rw [← stripPrefix_isSome]
  cases h : stripPrefix b [dash, dash] with
  | none => simp
  | some rem =>
    have hb := (stripPrefix_eq_some b [dash, dash] rem).1 h
    subst hb
    cases rem with
    | nil => simp [isEscape]
    | cons x t =>
      simp [isEscape]
      split <;> simp

theorem isShort_iff_toShort (b : Bytes) : isShort b = (toShort b).isSome := by
  unfold isShort toShort
  rw [← stripPrefix_isSome]
  cases h : stripPrefix b [dash] with
  | none => simp
  | some rem =>
    have hb := (stripPrefix_eq_some b [dash] rem).1 h
    subst hb
    cases rem with
    | nil => simp [isStdio, startsWith]
    | cons x t =>
      by_cases hx : x = dash
      · subst hx; simp [isStdio, startsWith]
      · simp [isStdio, startsWith, hx]

/-- "plain value" is exactly "does not start with `-`", and the four dash-classes
(escape, stdio, long, short) are pairwise exclusive and exhaust the rest. -/
theorem classes_partition (b : Bytes) :
    (startsWith b [dash] = false →
        isEscape b = false ∧ isStdio b = false ∧ isLong b = false ∧ isShort b = false) ∧
    (startsWith b [dash] = true →
        (isEscape b).toNat + (isStdio b).toNat + (isLong b).toNat + (isShort b).toNat = 1) := by
  cases b with
  | nil => simp [startsWith, isEscape, isStdio, isLong, isShort]
  | cons x t =>
    by_cases hx : x = dash
    · subst hx
      cases t with
      | nil => simp [startsWith, isEscape, isStdio, isLong, isShort]
      | cons y u =>
        by_cases hy : y = dash
        · subst hy
          cases u with
          | nil => simp [startsWith, isEscape, isStdio, isLong, isShort]
          | cons z v => simp [startsWith, isEscape, isStdio, isLong, isShort]
        · have hy' : (y == dash) = false := by simp [hy]
          simp [startsWith, isEscape, isStdio, isLong, isShort, hy']
    · simp [startsWith, isEscape, isStdio, isLong, isShort, hx]


/-! #### 2. the long decomposition re-assembles to the original bytes -/

/-- `=value` part of a long argument -/
def longTail : Option Bytes → Bytes
  | none => []
  | some v => Bytes.eq :: v

/-- what `to_long` returns is a decomposition of the argument: `--` + name
[+ `=` + value]; the name contains no `=`, its "is text" flag is exactly UTF-8
validity of the name, and name and value are not both missing. -/
theorem toLong_reassembles (b name : Bytes) (u : Bool) (v : Option Bytes)
    (h : toLong b = some (name, u, v)) :
    b = dash :: dash :: name ++ longTail v ∧
    Bytes.eq ∉ name ∧ u = Utf8.valid name ∧ (name ≠ [] ∨ v.isSome) := by
  unfold toLong at h
  cases hs : stripPrefix b [dash, dash] with
  | none => simp [hs] at h
  | some rem =>
    have hb := (stripPrefix_eq_some b [dash, dash] rem).1 hs
    simp only [hs] at h
    split at h
    · simp at h
    · next hne =>
      cases hso : OsStrExt.splitOnce rem [Bytes.eq] with
      | none =>
        simp [hso] at h
        obtain ⟨rfl, rfl, rfl⟩ := h
        refine ⟨by simpa [longTail] using hb, OsStrExt.not_mem_of_never _ _ (OsStrExt.splitOnce_none hso), rfl, ?_⟩
        left; intro hn; simp [hn] at hne
      | some p =>
        obtain ⟨p0, p1⟩ := p
        simp [hso] at h
        obtain ⟨rfl, rfl, rfl⟩ := h
        obtain ⟨hrem, hmin⟩ := OsStrExt.splitOnce_some hso
        refine ⟨by rw [hb, hrem]; simp [longTail], ?_, rfl, by simp⟩
        apply OsStrExt.not_mem_of_no_match Bytes.eq p0 (Bytes.eq :: p1)
        intro j hj
        have := hmin j hj
        rw [hrem] at this
        simpa using this

/-! #### 3. negative numbers -/

theorem isNumber_dash_false (r : Bytes) : isNumber (dash :: r) = false := by
  simp [isNumber, isNumberLoop, isDigit, dash]

/-- a negative number is valid UTF-8, starts with `-`, and the rest has the number shape -/
theorem isNegativeNumber_spec (b : Bytes) (h : isNegativeNumber b = true) :
    Utf8.valid b = true ∧ ∃ r, b = dash :: r ∧ isNumber r = true := by
  unfold isNegativeNumber at h
  split at h
  · next hv =>
    cases hs : stripPrefix b [dash] with
    | none => simp [hs] at h
    | some r =>
      simp [hs] at h
      exact ⟨hv, r, by simpa using (stripPrefix_eq_some b [dash] r).1 hs, h⟩
  · simp at h

/-- a negative number is short-looking (`-` followed by something that is not
`-`); in particular the stdio argument `-` is not a negative number.
(Before the `fix:` commit for finding F13 this held only for `b ≠ "-"`.) -/
theorem negativeNumber_isShort (b : Bytes) (h : isNegativeNumber b = true) : isShort b = true := by
  obtain ⟨_, r, rfl, hr⟩ := isNegativeNumber_spec b h
  cases r with
  | nil => simp [isNumber] at hr
  | cons x t =>
    by_cases hx : x = dash
    · subst hx; simp [isNumber_dash_false] at hr
    · have hx' : (x == dash) = false := by simp [hx]
      simp [isShort, isStdio, startsWith, hx']

example : isNegativeNumber [dash, 0x31, 0x2E, 0x35] = true := by decide +kernel
example : isNegativeNumber [dash] = false := by decide +kernel

/-! #### 4. walking a short cluster is lossless -/

open ShortFlags in
/-- the unread bytes of a cluster -/
def unread (s : ShortFlags) : Bytes := s.chars.flatten ++ s.invalid.getD []

/-- the invariant tying the byte offset used for re-slicing to the unread bytes -/
def Inv (s : ShortFlags) : Prop := s.inner.drop s.off = unread s ∧ s.off ≤ s.inner.length

theorem inv_new (inner : Bytes) : Inv (ShortFlags.new inner) ∧ unread (ShortFlags.new inner) = inner := by
  have hl := Utf8.splitValid_lossless inner
  unfold Utf8.chars Utf8.invalidRest at hl
  unfold Inv unread ShortFlags.new
  cases hsv : Utf8.splitValid inner with
  | mk cs rest =>
    rw [hsv] at hl
    simp only at hl ⊢
    cases rest <;> simp at hl ⊢ <;> exact ⟨hl.symm, hl⟩

def flagBytes : ShortFlags.Flag → Bytes
  | .ch c => c
  | .bad s => s
  | .done => []

/-- handing out a prefix `x` of the unread bytes and moving the offset past it keeps the invariant -/
theorem Inv.advance {s s' : ShortFlags} {x : Bytes} (hi : Inv s) (hu : unread s = x ++ unread s')
    (hin : s'.inner = s.inner) (hoff : s'.off = s.off + x.length) : Inv s' := by
  obtain ⟨hd, hle⟩ := hi
  rw [hu] at hd
  have hlen := congrArg List.length hd
  rw [List.length_drop, List.length_append] at hlen
  rw [Inv, hin, hoff, ← List.drop_drop, hd, List.drop_left]
  exact ⟨rfl, by omega⟩

/-- `next_flag` hands out exactly the next unread bytes and keeps the invariant -/
theorem nextFlag_lossless (s : ShortFlags) (hi : Inv s) :
    unread s = flagBytes s.nextFlag.2 ++ unread s.nextFlag.1 ∧ Inv s.nextFlag.1 ∧
    (s.nextFlag.2 = .done → unread s = []) := by
  unfold ShortFlags.nextFlag
  cases hc : s.chars with
  | cons c cs =>
    refine ⟨?hu, hi.advance ?hu rfl rfl, by simp⟩
    simp [unread, hc, flagBytes]
  | nil =>
    cases hv : s.invalid with
    | some suf =>
      refine ⟨?hs, hi.advance ?hs rfl rfl, by simp⟩
      simp [unread, hc, hv, flagBytes]
    | none => exact ⟨by simp [unread, hc, hv, flagBytes], hi, fun _ => by simp [unread, hc, hv]⟩

/-- `next_value_os` returns exactly the unread bytes (`None` only when the
iterator is exhausted), and nothing remains afterwards -/
theorem nextValueOs_unread (s : ShortFlags) (hi : Inv s) :
    s.nextValueOs.2.getD [] = unread s ∧
    (s.nextValueOs.2 = none ↔ s.chars = [] ∧ s.invalid = none) ∧
    unread s.nextValueOs.1 = [] ∧ Inv s.nextValueOs.1 := by
  unfold ShortFlags.nextValueOs
  cases hc : s.chars with
  | cons c cs => exact ⟨hi.1, by simp, rfl, by simp [Inv, unread]⟩
  | nil =>
    cases hv : s.invalid with
    | some suf =>
      refine ⟨by simp [unread, hc, hv], by simp, rfl, hi.advance (x := suf) ?_ rfl rfl⟩
      simp [unread, hc, hv]
    | none => exact ⟨by simp [unread, hc, hv], by simp, by simp [unread, hc, hv], hi⟩

/-! the history version: any interleaving of iterator calls -/

inductive SOp
  | flag | value | isEmpty | isNeg
  | advance (n : Nat)

/-- one call: new state and the bytes it handed out -/
def stepOp (s : ShortFlags) : SOp → ShortFlags × Bytes
  | .flag => (s.nextFlag.1, flagBytes s.nextFlag.2)
  | .value => (s.nextValueOs.1, s.nextValueOs.2.getD [])
  | .isEmpty => (s, [])
  | .isNeg => (s, [])
  | .advance n => ((ShortFlags.advanceBy n 0 s).1, (unread s).take ((unread s).length - (unread (ShortFlags.advanceBy n 0 s).1).length))

def runOps : ShortFlags → List SOp → ShortFlags × Bytes
  | s, [] => (s, [])
  | s, op :: ops =>
    let r := stepOp s op
    let r' := runOps r.1 ops
    (r'.1, r.2 ++ r'.2)

theorem advanceBy_suffix : ∀ (n i : Nat) (s : ShortFlags), Inv s →
    Inv (ShortFlags.advanceBy n i s).1 ∧ ∃ p, unread s = p ++ unread (ShortFlags.advanceBy n i s).1
  | 0, _, s, hi => ⟨hi, [], by simp [ShortFlags.advanceBy]⟩
  | n+1, i, s, hi => by
    unfold ShortFlags.advanceBy
    obtain ⟨hu, hi', _⟩ := nextFlag_lossless s hi
    cases hf : s.nextFlag with
    | mk s' f =>
      rw [hf] at hu hi'
      cases f with
      | ch c =>
        simp only
        obtain ⟨hi2, p, hp⟩ := advanceBy_suffix n (i+1) s' hi'
        exact ⟨hi2, flagBytes (.ch c) ++ p, by rw [hu]; simp only at hp ⊢; rw [hp]; simp⟩
      | bad suf => exact ⟨hi', flagBytes (.bad suf), hu⟩
      | done => exact ⟨hi', flagBytes .done, hu⟩

/-- **lossless walk, for every finite sequence of iterator operations**: the
bytes handed out so far followed by the unread bytes are always the cluster. -/
theorem shortWalk_lossless (ops : List SOp) : ∀ (s : ShortFlags), Inv s →
    unread s = (runOps s ops).2 ++ unread (runOps s ops).1 ∧ Inv (runOps s ops).1 := by
  induction ops with
  | nil => intro s hi; simp [runOps, hi]
  | cons op ops ih =>
    intro s hi
    have hstep : unread s = (stepOp s op).2 ++ unread (stepOp s op).1 ∧ Inv (stepOp s op).1 := by
      cases op with
      | flag => obtain ⟨h1, h2, _⟩ := nextFlag_lossless s hi; exact ⟨h1, h2⟩
      | value =>
        obtain ⟨h1, _, h3, h4⟩ := nextValueOs_unread s hi
        exact ⟨by simp [stepOp, h1, h3], h4⟩
      | isEmpty => simp [stepOp, hi]
      | isNeg => simp [stepOp, hi]
      | advance n =>
        obtain ⟨h1, p, hp⟩ := advanceBy_suffix n 0 s hi
        refine ⟨?_, h1⟩
        simp only [stepOp]
        rw [hp, List.length_append, Nat.add_sub_cancel, List.take_left]
    obtain ⟨h1, h2⟩ := ih (stepOp s op).1 hstep.2
    simp only [runOps]
    exact ⟨by rw [hstep.1, List.append_assoc, ← h1], h2⟩

/-- from a fresh cluster: whatever was handed out plus what is unread is the
text after the leading `-` -/
theorem shortWalk_from_new (inner : Bytes) (ops : List SOp) :
    inner = (runOps (ShortFlags.new inner) ops).2 ++ unread (runOps (ShortFlags.new inner) ops).1 := by
  obtain ⟨hi, hu⟩ := inv_new inner
  have := (shortWalk_lossless ops _ hi).1
  rw [hu] at this
  exact this

/-- non-vacuity: a concrete mixed cluster (`a`, `é`, then an invalid byte) -/
example : (runOps (ShortFlags.new [0x61, 0xC3, 0xA9, 0xFF]) [.flag, .isEmpty, .value]).2 = [0x61, 0xC3, 0xA9, 0xFF] := by decide +kernel

/-- `to_short` hands the iterator exactly the bytes after the leading `-` -/
theorem toShort_spec (b : Bytes) (s : ShortFlags) (h : toShort b = some s) :
    b = dash :: unread s ∧ Inv s ∧ unread s ≠ [] := by
  unfold toShort at h
  cases hs : stripPrefix b [dash] with
  | none => simp [hs] at h
  | some rem =>
    have hb := (stripPrefix_eq_some b [dash] rem).1 hs
    simp only [hs] at h
    split at h
    · simp at h
    · split at h
      · simp at h
      · next hne =>
        simp at h
        subst h
        obtain ⟨hi, hu⟩ := inv_new rem
        refine ⟨by rw [hu]; simpa using hb, hi, ?_⟩
        rw [hu]; intro hn; simp [hn] at hne

end Clap.C13

/-
C10 — what a rejection of a well-formed command line can be.

`react` (the one place where an occurrence is checked and stored) fails only for a reason the occurrence itself
gives: its value count is outside the declared range, one of its values is outside the value parser's language, it
repeats a `Set` arg that does not override itself, or it is a help / version flag (`reactCore_error`).  Together with the
attribution refinement of C02 (`loop_clusters`) this bounds the rejections of a well-formed line
(`wellformed_rejection_justified`): the error observed is one that `react` gives, for one of these reasons, on some arg of
the command - so never `unknown argument`, `invalid subcommand` or `no equals`.  The statement does not name the
occurrence of the line that was rejected; the proof finds it among the line's `react`s (`runAtoms_error`).
-/
import ClapProofs.C02Short
import ClapProofs.C10
namespace Clap.C10
open Clap Parser

/-- the reason `react` gives for rejecting an occurrence of `a` with values `vals` in state `p` -/
inductive Reason (c : Cmd) (source : Source) (a : Arg) (vals : List Bytes) (p : P) (e : EK) : Prop
  | count (hs : source = .cmdline) (h : verifyNumArgs c a vals.length = .error e)
  | value (raw : Bytes) (h : parseValue a raw = .error e)
  | repeated (he : e = .argumentConflict) (hact : a.getAction = .set ∨ a.getAction = .setTrue ∨ a.getAction = .setFalse)
      (hno : (c.settings.argsOverrideSelf || a.overrides.contains a.id) = false)
  | help (he : e = .displayHelp) (hact : a.getAction = .help ∨ a.getAction = .helpShort ∨ a.getAction = .helpLong)
  | version (he : e = .displayVersion) (hact : a.getAction = .version)

/-- **every rejection by `react` is justified by the occurrence itself** -/
theorem reactCore_error (c : Cmd) (ident : Option Ident) (source : Source) (a : Arg) (vals : List Bytes)
    (t : Option Nat) (p : P) (e : EK) (h : (reactCore c ident source a vals t p).2 = .error e) :
    Reason c source a vals p e := by
  rcases reactCore_cases c ident source a vals t p with ⟨e', he, hk⟩ | ⟨p0, vs, _, hk⟩
  · rw [he] at h
    cases h
    rcases hk with ⟨hs, hv⟩ | ⟨he, ha⟩ | ⟨he, ha⟩
    · exact .count hs hv
    · exact .help he ha
    · exact .version he ha
  · rcases hk with ⟨he, ha, hno⟩ | he | he
    · rw [he] at h
      cases h
      exact .repeated rfl ha hno
    · rw [he] at h
      obtain ⟨raw, _, hr⟩ := reactFinish_error _ _ _ _ _ _ h
      exact .value raw hr
    · rw [he] at h
      obtain ⟨raw, _, hr⟩ := reactFinish_error _ _ _ _ _ _ h
      exact .value raw hr

/-- the value parsers only ever answer with value errors -/
theorem parseValue_kinds (a : Arg) (raw : Bytes) (e : EK) (h : parseValue a raw = .error e) :
    e = .invalidValue ∨ e = .invalidUtf8 ∨ e = .valueValidation := by
  have lift : ∀ {α : Type} (r : Values.VRes α), liftVRes r = .error e → e = .invalidValue ∨ e = .invalidUtf8 ∨ e = .valueValidation := by
    intro α r h
    cases r with
    | ok v => simp [liftVRes] at h
    | err ve => simp [liftVRes] at h; subst h; cases ve <;> simp [liftVErr]
  unfold parseValue at h
  split at h
  · split at h <;> simp at h; subst h; simp
  · simp at h
  · exact lift _ h
  · exact lift _ h
  · exact lift _ h
  · exact lift _ h
  · split at h
    · simp at h; subst h; simp
    · split at h <;> simp at h; subst h; simp

/-- every key of the abstract run names something -/
def atomsOk (c : Cmd) : List C02.Atom → Nat → Prop
  | [], _ => True
  | x :: r, pc => (x.arg c pc).isSome = true ∧ atomsOk c r (x.next pc)

theorem findLong_mem {c : Cmd} {n : Bytes} {a : Arg} (hk : findLong c n = some a) : a ∈ c.args := by
  unfold findLong at hk
  split at hk
  · next a' hg => simp at hk; subst hk; exact (C01.getKey_mem hg).1
  · split at hk
    · split at hk
      · next a' hf =>
        simp at hk; subst hk
        have hm : a' ∈ c.args.filter fun a => prefixMatches a n := by rw [hf]; simp
        exact (List.mem_filter.1 hm).1
      · simp at hk
    · simp at hk

theorem atom_arg_mem {c : Cmd} {pc : Nat} {x : C02.Atom} {a : Arg} (h : x.arg c pc = some a) : a ∈ c.args := by
  cases x with
  | long n v => exact findLong_mem h
  | short ch v => exact (C01.getKey_mem h).1
  | pos v => exact (C01.getKey_mem h).1

/-- an error of the abstract run is the error of one of its `react`s -/
theorem runAtoms_error (c : Cmd) : ∀ (l : List C02.Atom) (pc : Nat) (p : P) (e : EK), p.pending = none → atomsOk c l pc →
    (C02.runAtoms c l pc p).2 = .error e →
    ∃ (a : Arg) (vals : List Bytes) (p' : P), a ∈ c.args ∧ Reason c .cmdline a vals p' e
  | [], _, _, _, _, _, h => by simp [C02.runAtoms] at h
  | x :: rest, pc, p, e, hpn, ⟨hs, hok⟩, h => by
    rw [C02.runAtoms_cons] at h
    cases hk : x.arg c pc with
    | none => rw [hk] at hs; cases hs
    | some a =>
      simp only [hk, react_none c _ _ _ _ _ p hpn] at h
      cases hr : reactCore c (some x.ident) .cmdline a x.vals none p with
      | mk p1 r =>
        rw [hr] at h
        cases r with
        | error e' =>
          cases h
          exact ⟨a, x.vals, p, atom_arg_mem hk, reactCore_error c _ .cmdline a x.vals none p _ (by rw [hr])⟩
        | ok _ => exact runAtoms_error c rest _ p1 e (by rw [(reactCore_stored_of_eq hr).pending]; exact hpn) hok h

theorem atomsOk_append_noPos (c : Cmd) : ∀ (l r : List C02.Atom) (pc : Nat),
    (∀ x ∈ l, ∃ ch v, x = C02.Atom.short ch v ∧ (c.getShort ch).isSome = true) → atomsOk c r pc → atomsOk c (l ++ r) pc
  | [], _, _, _, hr => hr
  | x :: l, r, pc, hl, hr => by
    obtain ⟨ch, v, rfl, hs⟩ := hl x List.mem_cons_self
    exact ⟨hs, atomsOk_append_noPos c l r pc (fun y hy => hl y (List.mem_cons_of_mem _ hy)) hr⟩

/-- an admissible command line only uses keys that name something -/
theorem okAll3_atomsOk (c : Cmd) : ∀ (occs : List C02.Occ3) (pc : Nat), C02.okAll3 c occs pc →
    atomsOk c (occs.flatMap C02.Occ3.atoms) pc
  | [], _, _ => trivial
  | .long o :: rest, pc, h => by
    obtain ⟨⟨⟨_, _, _, _, a, hget, _⟩, _⟩, hr⟩ := h
    simp only [C02.SOcc.toL] at hget
    exact ⟨by simp [C02.Atom.arg, hget], okAll3_atomsOk c rest pc hr⟩
  | .pos v :: rest, pc, h => by
    obtain ⟨_, _, ⟨a, hs, _⟩, hr⟩ := h
    exact ⟨by simp [C02.Atom.arg, hs], okAll3_atomsOk c rest (pc + 1) hr⟩
  | .cluster o :: rest, pc, h => by
    obtain ⟨⟨_, _, hflags, hopt⟩, hr⟩ := h
    rw [List.flatMap_cons]
    refine atomsOk_append_noPos c _ _ pc ?_ (okAll3_atomsOk c rest pc hr)
    intro x hx
    simp only [C02.Occ3.atoms, C02.COcc.atoms] at hx
    rcases List.mem_append.1 hx with hx | hx
    · obtain ⟨ch, hch, rfl⟩ := List.mem_map.1 hx
      obtain ⟨_, _, a, hg, _⟩ := hflags ch hch
      exact ⟨ch, none, rfl, by rw [hg]; rfl⟩
    · cases ho : o.opt with
      | none => rw [ho] at hx; simp at hx
      | some t =>
        obtain ⟨ch, v, k⟩ := t
        rw [ho] at hx
        simp at hx
        obtain ⟨_, _, a, hg, _⟩ := hopt ch v k ho
        exact ⟨ch, some v, hx, by rw [hg]; rfl⟩

/-- **a well-formed command line is rejected only with an error `react` gives on an arg of the command** (C10): under
the hypotheses of the attribution refinement, whatever error the parser's caller observes after the token loop is, for
some arg `a` of the command and some values, one of `Reason`'s: a value count outside `a`'s declared range, a value
outside its value parser's language, a repeated `Set`-like arg that does not override itself, or a help / version
flag. In particular a well-formed line is never answered `unknown argument`, `invalid subcommand` or `no equals`
(`reason_kinds`). Which occurrence of the line it was is not part of the statement (and `Reason` does not depend on its
state argument). -/
theorem wellformed_rejection_justified (c : Cmd) (wf : C01.WF c) (sp : C02.SimplePos c) (pp : C02.PlainPos c)
    (similar : Bytes → Bytes → Bool) (occs : List C02.Occ3) (ls : LoopSt) (p : P)
    (hok : C02.okAll3 c occs ls.posCounter) (htr : ls.trailing = false) (hst : ls.st = .valuesDone)
    (hfss : p.flagSubSkip = 0) (hpn : p.pending = none) (e : EK)
    (h : C02.obs c (loop c similar ls (occs.flatMap C02.Occ3.spell) p) = .error e) :
    ∃ (a : Arg) (vals : List Bytes) (p' : P), a ∈ c.args ∧ Reason c .cmdline a vals p' e := by
  rw [C02.loop_clusters c wf sp pp similar occs ls p hok htr hst hfss, resolvePending_none c p hpn] at h
  simp only at h
  have h2 : (C02.runAtoms c (occs.flatMap C02.Occ3.atoms) ls.posCounter p).2 = .error e := by
    cases hr : C02.runAtoms c (occs.flatMap C02.Occ3.atoms) ls.posCounter p with
    | mk q r =>
      rw [hr] at h
      cases r with
      | error e' => simp [C02.obsA] at h; subst h; rfl
      | ok x => simp [C02.obsA] at h
  exact runAtoms_error c _ _ p e hpn (okAll3_atomsOk c occs _ hok) h2

/-- the kinds of a justified rejection -/
theorem reason_kinds {c : Cmd} {source : Source} {a : Arg} {vals : List Bytes} {p : P} {e : EK}
    (h : Reason c source a vals p e) :
    e = .invalidValue ∨ e = .invalidUtf8 ∨ e = .valueValidation ∨ e = .wrongNumberOfValues ∨ e = .tooFewValues ∨
    e = .tooManyValues ∨ e = .argumentConflict ∨ e = .displayHelp ∨ e = .displayVersion := by
  cases h with
  | count _ hv =>
    rcases num_args_kinds c a vals.length e hv with h | h | h | h <;> simp [h]
  | value raw hr => rcases parseValue_kinds a raw e hr with h | h | h <;> simp [h]
  | repeated he _ _ => simp [he]
  | help he _ => simp [he]
  | version he _ => simp [he]

end Clap.C10

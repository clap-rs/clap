/-
C16 — the zsh generator: the root's `_arguments` spec, the root's `_<bin>_commands` function and one
`_<bin>_commands` function for every command of the tree are in the script; such a function names every subcommand
and visible alias of its command.
-/
import ClapProofs.C16
import ClapModel.ZshGen
namespace Clap.C16
open Clap Shell ZshGen

theorem zsh_mem_insertSorted (x y : Str) (l : List Str) : y ∈ insertSorted x l ↔ y = x ∨ y ∈ l := by
  induction l with
  | nil => simp [insertSorted]
  | cons z zs ih => unfold insertSorted; split <;> simp [ih, or_left_comm]

/-- dropping a text equal to its successor is an insertion too: the text is in the result either way -/
theorem zsh_mem_dedupStep (x y : Str) (acc : List Str) :
    y ∈ (match acc with | z :: _ => if x == z then acc else x :: acc | [] => [x]) ↔ y = x ∨ y ∈ acc := by
  cases acc with
  | nil => simp
  | cons z rest =>
    simp only
    split
    · next h => obtain rfl : x = z := by simpa using h
                simp
    · simp

theorem zsh_mem_sortDedup (l : List Str) (y : Str) (h : y ∈ l) : y ∈ sortDedup l := by
  unfold sortDedup
  rw [← List.foldl_reverse]
  refine (mem_foldl_insert _ zsh_mem_dedupStep _ _ y).2 (.inr (List.mem_reverse.2 ?_))
  exact (mem_foldl_insert insertSorted zsh_mem_insertSorted l [] y).2 (.inr h)

theorem infix_joinLines : ∀ (l : List Str) (x : Str), x ∈ l → x <:+: joinLines l
  | [], x, h => by cases h
  | [a], x, h => by simp at h; subst h; exact List.infix_refl _
  | a :: b :: r, x, h => by
    unfold joinLines
    rcases List.mem_cons.1 h with rfl | h'
    · exact List.infix_append_of_infix_left (List.infix_append_of_infix_left (List.infix_refl _))
    · exact List.infix_append_of_infix_right (infix_joinLines (b :: r) x h')

/-- the three generated pieces of the script template -/
theorem script_parts (fuel : Nat) (root : ZNode) : getArgsOf root <:+: script fuel root ∧
    getSubcommandsOf fuel root <:+: script fuel root ∧ subcommandDetails root <:+: script fuel root := by
  unfold script scriptParts
  refine ⟨List.infix_of_mem_flatten ?_, List.infix_of_mem_flatten ?_, List.infix_of_mem_flatten ?_⟩
  all_goals simp only [List.mem_cons, true_or, or_true]

/-- **every command of the tree has its `_<bin>_commands` function in the zsh script** -/
theorem zsh_commands_fn (fuel : Nat) (root : ZNode) (nm bin : Str) (h : (nm, bin) ∈ allSubcommands root) (n : ZNode)
    (hp : parserOf root bin = some n) : commandsFn bin n <:+: script fuel root := by
  have h1 : commandsFn bin n <:+: subcommandDetails root := by
    unfold subcommandDetails
    apply infix_joinLines
    refine List.mem_cons_of_mem _ (List.mem_map.2 ⟨bin, zsh_mem_sortDedup _ _ (List.mem_map.2 ⟨(nm, bin), h, rfl⟩), ?_⟩)
    simp [hp]
  exact h1.trans (script_parts fuel root).2.2

theorem zsh_root_commands_fn (fuel : Nat) (root : ZNode) : commandsFn root.binName root <:+: script fuel root := by
  have h1 : commandsFn root.binName root <:+: subcommandDetails root := by
    unfold subcommandDetails
    exact infix_joinLines _ _ List.mem_cons_self
  exact h1.trans (script_parts fuel root).2.2

theorem zsh_root_args (fuel : Nat) (root : ZNode) : getArgsOf root <:+: script fuel root :=
  (script_parts fuel root).1

/-- the `_<bin>_commands` function names every subcommand and visible alias of its command -/
theorem zsh_commands_fn_has_name (bin : Str) (n c : ZNode) (hc : c ∈ n.subs) (nm : Str) (hn : nm ∈ c.name :: c.aliases) :
    (s "'" ++ nm ++ s ":" ++ escapeHelp (c.about.getD []) ++ s "' \\") <:+: commandsFn bin n := by
  have hseg : (s "'" ++ nm ++ s ":" ++ escapeHelp (c.about.getD []) ++ s "' \\") ∈
      n.subs.flatMap fun c => (c.name :: c.aliases).map fun nm => s "'" ++ nm ++ s ":" ++ escapeHelp (c.about.getD []) ++ s "' \\" :=
    List.mem_flatMap.2 ⟨c, hc, List.mem_map.2 ⟨nm, hn, rfl⟩⟩
  have h1 : (s "'" ++ nm ++ s ":" ++ escapeHelp (c.about.getD []) ++ s "' \\") <:+: subcommandsOf n := by
    unfold subcommandsOf
    simp only
    split
    · next he => rw [List.isEmpty_iff] at he; rw [he] at hseg; cases hseg
    · exact infix_joinLines _ _ (List.mem_append_left _ (List.mem_append_right _ hseg))
  unfold commandsFn
  exact List.IsInfix.trans h1 (List.infix_of_mem_flatten (by simp))

/-! ### the `_arguments` spec of a level names its options; the spec of every level is in the script -/

/-- a piece that is among the lines unless it is empty is inside the joined lines either way -/
theorem infix_joinLines_guard (y : Str) (l : List Str) (h : y.isEmpty = false → y ∈ l) : y <:+: joinLines l := by
  cases y with
  | nil => exact List.nil_infix
  | cons c r => exact infix_joinLines _ _ (h rfl)

/-- the option lines, the flag lines and the positional lines are inside the level's spec -/
theorem getArgsOf_parts (n : ZNode) :
    writeOptsOf n.args <:+: getArgsOf n ∧ writeFlagsOf n.args <:+: getArgsOf n ∧ writePositionalsOf n <:+: getArgsOf n := by
  unfold getArgsOf
  refine ⟨infix_joinLines_guard _ _ fun h => ?_, infix_joinLines_guard _ _ fun h => ?_, infix_joinLines_guard _ _ fun h => ?_⟩
  all_goals simp only [h, Bool.false_eq_true, ↓reduceIte, List.mem_append, List.mem_singleton, true_or, or_true]

/-- the value part of an option's spec carries the option's value completion (its possible values), whether the value
is mandatory, repeated or optional (the latter after the `fix:` for finding F24) -/
theorem zsh_vc_has_completion (o : ZArg) (v : Str) (h : valueCompletion o = some v) : v <:+: vcOf o := by
  unfold vcOf
  simp only [h]
  split
  · exact ⟨s ":" ++ (s ":" ++ o.valueName.getD (s " ") ++ s ":"), [], by simp only [List.append_assoc, List.append_nil]⟩
  · next hm =>
    cases hn : o.minVals with
    | zero => simp [hn] at hm
    | succ k =>
      rw [List.replicate_succ, List.flatten_cons]
      exact ⟨s ":" ++ o.valueName.getD (s " ") ++ s ":", (List.replicate k (s ":" ++ o.valueName.getD (s " ") ++ s ":" ++ v)).flatten, by simp only [List.append_assoc]⟩

/-- the whole spec line of a value-taking option - name, help and value part - is in its level's spec -/
theorem zsh_args_has_opt_spec (n : ZNode) (o : ZArg) (ho : o ∈ n.args) (ht : o.takes = true) (hp : o.positional = false)
    (l : Str) (hl : l ∈ o.longsAll) :
    (s "--" ++ l ++ s "=[" ++ escapeHelp (o.help.getD []) ++ s "]" ++ vcOf o) <:+: getArgsOf n := by
  refine .trans ?_ (getArgsOf_parts n).1
  refine .trans ⟨s "'" ++ conflictsText o ++ starText o, s "' \\", ?_⟩ (infix_joinLines _ _
    (List.mem_flatMap.2 ⟨o, List.mem_filter.2 ⟨ho, by simp [ht, hp]⟩, List.mem_append_right _ (List.mem_map.2 ⟨l, hl, rfl⟩)⟩))
  simp only [List.append_assoc]

/-- every long spelling (name or visible alias) of a value-taking option is in its level's spec -/
theorem zsh_args_has_opt_long (n : ZNode) (o : ZArg) (ho : o ∈ n.args) (ht : o.takes = true) (hp : o.positional = false)
    (l : Str) (hl : l ∈ o.longsAll) : (s "--" ++ l ++ s "=[") <:+: getArgsOf n :=
  .trans ⟨[], escapeHelp (o.help.getD []) ++ s "]" ++ vcOf o, by simp only [List.append_assoc, List.nil_append]⟩ (zsh_args_has_opt_spec n o ho ht hp l hl)

/-- hence the possible values of every value-taking option of a level are in that level's spec -/
theorem zsh_args_has_opt_values (n : ZNode) (o : ZArg) (ho : o ∈ n.args) (ht : o.takes = true) (hp : o.positional = false)
    (l : Str) (hl : l ∈ o.longsAll) (v : Str) (hv : valueCompletion o = some v) : v <:+: getArgsOf n :=
  List.IsInfix.trans (List.IsInfix.trans (zsh_vc_has_completion o v hv)
    ⟨s "--" ++ l ++ s "=[" ++ escapeHelp (o.help.getD []) ++ s "]", [], by simp only [List.append_assoc, List.append_nil]⟩)
    (zsh_args_has_opt_spec n o ho ht hp l hl)

/-- the long name of a flag is in its level's spec -/
theorem zsh_args_has_flag_long (n : ZNode) (f : ZArg) (hf : f ∈ n.args) (ht : f.takes = false) (hp : f.positional = false)
    (l : Str) (hl : f.long1 = some l) : (s "--" ++ l ++ s "[") <:+: getArgsOf n := by
  refine .trans ?_ (getArgsOf_parts n).2.1
  refine .trans ⟨s "'" ++ conflictsText f ++ starText f, escapeHelp (f.help.getD []) ++ s "]' \\", ?_⟩ (infix_joinLines _ _
    (List.mem_flatMap.2 ⟨f, List.mem_filter.2 ⟨hf, by simp [ht, hp]⟩, List.mem_append_right _ (by rw [hl]; exact List.mem_cons_self)⟩))
  simp only [List.append_assoc]

/-- the `(name) … ;;` entry of one subcommand inside its parent's `case` -/
def caseEntry (fuel : Nat) (nm : Str) (sc : ZNode) : Str :=
  joinLines ([s "(" ++ nm ++ s ")"] ++ (if (getArgsOf sc).isEmpty then [] else [getArgsOf sc]) ++
    (if (getSubcommandsOf fuel sc).isEmpty then [] else [getSubcommandsOf fuel sc]) ++ [s ";;"])

theorem caseEntry_in_parent (fuel : Nat) (parent c : ZNode) (hc : c ∈ parent.subs) (hp : parserOf parent c.binName = some c) :
    caseEntry fuel c.name c <:+: getSubcommandsOf (fuel + 1) parent := by
  have hne : parent.subs.isEmpty = false := by
    cases hs : parent.subs with
    | nil => rw [hs] at hc; cases hc
    | cons _ _ => rfl
  have hpair : (c.name, c.binName) ∈ subcommandPairs parent :=
    List.mem_flatMap.2 ⟨c, hc, List.mem_map.2 ⟨c.name, List.mem_cons_self, rfl⟩⟩
  unfold getSubcommandsOf
  simp only [hne, Bool.false_eq_true, if_false]
  refine List.infix_append_of_infix_left (List.infix_append_of_infix_right (infix_joinLines _ _ ?_))
  refine List.mem_map.2 ⟨(c.name, c.binName), hpair, ?_⟩
  simp only [hp]
  rfl

/-- the `case` block of a level carries, for each subcommand found by its bin name, that subcommand's spec and its own
`case` block -/
theorem zsh_sub_block (fuel : Nat) (parent c : ZNode) (hc : c ∈ parent.subs) (hp : parserOf parent c.binName = some c) :
    getArgsOf c <:+: getSubcommandsOf (fuel + 1) parent ∧ getSubcommandsOf fuel c <:+: getSubcommandsOf (fuel + 1) parent := by
  refine ⟨.trans (infix_joinLines_guard _ _ fun h => ?_) (caseEntry_in_parent fuel parent c hc hp),
    .trans (infix_joinLines_guard _ _ fun h => ?_) (caseEntry_in_parent fuel parent c hc hp)⟩
  all_goals simp only [h, Bool.false_eq_true, ↓reduceIte, List.mem_append, List.mem_singleton, true_or, or_true]

/-- a chain of subcommands each found by its bin name from its parent (the generator's own lookup), with its length -/
inductive ZPath : ZNode → ZNode → Nat → Prop
  | one {p c : ZNode} : c ∈ p.subs → parserOf p c.binName = some c → ZPath p c 1
  | cons {p c n : ZNode} {d : Nat} : c ∈ p.subs → parserOf p c.binName = some c → ZPath c n d → ZPath p n (d + 1)

theorem zsh_path_block {p n : ZNode} {d : Nat} (h : ZPath p n d) : ∀ fuel, d ≤ fuel → getArgsOf n <:+: getSubcommandsOf fuel p := by
  induction h with
  | one hc hp =>
    intro fuel hf
    cases fuel with
    | zero => omega
    | succ f => exact (zsh_sub_block f _ _ hc hp).1
  | cons hc hp _ ih =>
    intro fuel hf
    cases fuel with
    | zero => omega
    | succ f => exact List.IsInfix.trans (ih f (by omega)) (zsh_sub_block f _ _ hc hp).2

/-- **the `_arguments` spec of every command of the tree is in the zsh script**, at any depth, once the fuel covers the
depth (the driver passes the height of the tree) -/
theorem zsh_level_args (fuel : Nat) (root n : ZNode) (d : Nat) (h : ZPath root n d) (hf : d ≤ fuel) :
    getArgsOf n <:+: script fuel root :=
  (zsh_path_block h fuel hf).trans (script_parts fuel root).2.1

/-- so every long option spelling of every level is in the script -/
theorem zsh_script_has_opt_long (fuel : Nat) (root n : ZNode) (d : Nat) (h : ZPath root n d) (hf : d ≤ fuel)
    (o : ZArg) (ho : o ∈ n.args) (ht : o.takes = true) (hp : o.positional = false) (l : Str) (hl : l ∈ o.longsAll) :
    (s "--" ++ l ++ s "=[") <:+: script fuel root :=
  List.IsInfix.trans (zsh_args_has_opt_long n o ho ht hp l hl) (zsh_level_args fuel root n d h hf)

/-! non-vacuity: a three-level tree whose chain meets `ZPath`, with an option two levels down -/
def zb : ZNode := .mk ['b'] ['p', ' ', 'a', ' ', 'b'] none [] [{ id := ['o'], takes := true, longsAll := [['o', 'o']] }] []
def za : ZNode := .mk ['a'] ['p', ' ', 'a'] none [] [] [zb]
def zr : ZNode := .mk ['p'] ['p'] none [] [] [za]
example : ZPath zr zb 2 :=
  .cons (c := za) List.mem_cons_self (by simp [parserOf, parserOfList, zr, za, ZNode.binName])
    (.one List.mem_cons_self (by simp [parserOf, parserOfList, zb, za, ZNode.binName]))

end Clap.C16

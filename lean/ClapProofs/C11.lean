/-
C11 — Parsing is deterministic, re-entrant and independent of build timing.

Determinism is definitional in the model (the parser is a function of the built
command and the tokens; the correspondence check is what ties that to the real
crate). The theorems here are about the life cycle: `_build_self` is guarded by
the `Built` flag, building is therefore idempotent, and whatever sequence of
build / render / clone / parse operations a `Command` value went through, the
next parse answers what a fresh value would.
-/
import ClapModel
import ClapProofs.Lemmas.ListFold
import ClapProofs.Lemmas.CmdFields
namespace Clap.C11
open Clap Build History

theorem withSubs_self (c : Cmd) : c.withSubs c.subs = c := by cases c; rfl

/-- `_build_self` always leaves the `Built` flag set -/
theorem buildSelf_built (c : Cmd) : (buildSelf c).settings.built = true := by
  unfold buildSelf
  split
  · assumption
  · simp [buildSelfCore]

/-- **building one level twice is building it once** -/
theorem buildSelf_idem (c : Cmd) : buildSelf (buildSelf c) = buildSelf c := by
  have h := buildSelf_built c
  rw [buildSelf]; simp [h]

theorem buildAll_succ (n : Nat) (c : Cmd) :
    buildAll (n+1) c = (buildSelf c).withSubs ((buildSelf c).subs.map (buildAll n)) := rfl

theorem buildAll_built (n : Nat) (c : Cmd) : (buildAll (n+1) c).settings.built = true := by
  simp [buildAll_succ, buildSelf_built]

theorem buildSelf_of_built (c : Cmd) (h : c.settings.built = true) : buildSelf c = c := by
  rw [buildSelf]; simp [h]

/-- **`Command::build` is idempotent on the whole tree** (any depth, any command) -/
theorem buildAll_idem : ∀ (n : Nat) (c : Cmd), buildAll n (buildAll n c) = buildAll n c
  | 0, c => rfl
  | n+1, c => by
    have h1 := buildSelf_of_built _ (buildAll_built n c)
    rw [buildAll_succ n (buildAll (n+1) c), h1, buildAll_succ n c]
    simp only [Cmd.withSubs_subs, Cmd.withSubs_withSubs, List.map_map]
    congr 1
    apply List.map_congr_left
    intro s _
    exact buildAll_idem n s

/-- a render (one-level build) before the full build changes nothing -/
theorem buildAll_buildSelf (n : Nat) (c : Cmd) : buildAll (n+1) (buildSelf c) = buildAll (n+1) c := by
  simp [buildAll_succ, buildSelf_idem]

/-- the values a history can reach from the definition `c` -/
def Reach (depth : Nat) (c x : Cmd) : Prop := x = c ∨ x = buildSelf c ∨ x = buildAll (depth + 2) c

theorem step_reach (depth : Nat) (c x : Cmd) (op : Op) (hx : Reach depth c x) : Reach depth c (step depth x op) := by
  rcases hx with hx | hx | hx <;> subst hx <;> cases op <;>
    simp [Reach, step, buildSelf_idem, buildAll_idem, buildAll_buildSelf, buildSelf_of_built _ (buildAll_built _ _)]

/-- every value reachable by a history is either the fresh definition (only clones so
far), the fresh definition with its top level built (only renders and clones), or the fully built tree -/
theorem run_cases (depth : Nat) (c : Cmd) (h : List Op) : Reach depth c (run depth c h) :=
  foldl_inv (I := Reach depth c) (fun op _ x hx => step_reach depth c x op hx) (Or.inl rfl)

/-- **history independence**: after ANY sequence of `build`, `render_*`, `clone` and
parses (successful, failing, help - any argv), `try_get_matches_from_mut` returns exactly
what it returns on a fresh `Command` built from the same definition. For every command,
every history, every argv. -/
theorem history_independent (similar : Bytes → Bytes → Bool) (depth : Nat) (c : Cmd) (h : List Op) (argv : List Bytes)
    (hfresh : c.settings.built = false) :
    parseNow similar depth (run depth c h) argv = parseNow similar depth c argv := by
  have hnb : (buildSelf c).settings.noBinaryName = c.settings.noBinaryName := by
    simp [buildSelf, hfresh, buildSelfCore]
  have hnb2 : (buildAll (depth + 2) c).settings.noBinaryName = c.settings.noBinaryName := by
    rw [buildAll_succ, Cmd.withSubs_settings, hnb]
  unfold parseNow Command.tryGetMatchesFrom
  rcases run_cases depth c h with e | e | e <;> rw [e]
  · rw [buildAll_buildSelf, hnb]
  · rw [buildAll_idem, hnb2]

/-- two parses of the same argv in a row agree (re-entrancy; instance of the above) -/
theorem reparse_same (similar : Bytes → Bytes → Bool) (depth : Nat) (c : Cmd) (argv : List Bytes)
    (hfresh : c.settings.built = false) :
    parseNow similar depth (step depth c (.parse argv)) argv = parseNow similar depth c argv :=
  history_independent similar depth c [.parse argv] argv hfresh

/-- **the guard is what makes it so**: the unguarded body of `_build_self` is not idempotent -
run twice on the empty command it adds the help flag twice. -/
def emptyCmd : Cmd := .mk [112] [] none none [] [] {} [] [] []
theorem unguarded_rebuild_differs :
    (buildSelfCore (buildSelfCore emptyCmd)).args.length ≠ (buildSelfCore emptyCmd).args.length := by decide

/-- non-vacuity: the fresh hypothesis holds for a concrete command, and building changes it -/
example : emptyCmd.settings.built = false ∧ (buildSelf emptyCmd).args.length = 1 := by decide +kernel

end Clap.C11

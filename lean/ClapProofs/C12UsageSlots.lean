/-
C12 — a required positional is written in its own slot: on a level whose positional indices are unique (what
`debug_asserts.rs` asserts), the slot of a requested, non-`last` positional outside every written group holds exactly
that positional's display.
-/
import ClapModel
import ClapProofs.C12Usage
namespace Clap.C12U
open Clap Usage Validator

/-- positional indices are unique on the level -/
def IdxInj (c : Cmd) : Prop := ∀ a ∈ c.args, ∀ b ∈ c.args, ∀ i, a.index = some i → b.index = some i → a = b

/-- `argPass` keeps "slot `i` holds the display of `a`" once it is there, and establishes it when it processes `a` -/
theorem argPass_slot (c : Cmd) (u : UInfo) (inj : IdxInj c) (members : List Id) (r : Bool) (a : Arg) (i : Nat)
    (ha : a ∈ c.args) (hi : a.index = some i) :
    ∀ (reqs : List Id) (opts : List Bytes) (pos : List (Option Bytes)) (opts' : List Bytes) (pos' : List (Option Bytes)),
    argPass c u members r (fun _ => false) reqs opts pos = some (opts', pos') →
    (getSlot pos i = some (stylized u a r) ∨
      (∃ q ∈ reqs, c.find q = some a) ∧ members.contains a.id = false) →
    getSlot pos' i = some (stylized u a r) := by
  intro reqs opts pos opts' pos' h hs
  -- whoever wrote slot `i` last has index `i`, so is `a`
  rcases (argPass_spec h).2 i with ⟨b, ⟨q, _, hf, _⟩, hbi, e⟩ | ⟨hno, e⟩
  · cases inj b (C03.find_mem hf).1 a ha i hbi hi; exact e
  · rcases hs with hs | ⟨⟨q, hq, hf⟩, hm⟩
    · exact e.trans hs
    · exact absurd hi (hno a ⟨q, hq, hf, by rw [hm]; rfl⟩)

/-- `posPass` leaves the slot of a non-`last` positional as it found it when it is filled -/
theorem posPass_keeps (c : Cmd) (u : UInfo) (inj : IdxInj c) (members : List Id) (fo : Bool) (a : Arg) (i : Nat)
    (ha : a ∈ c.args) (hi : a.index = some i) (hl : a.last = false) (s : Bytes) :
    ∀ (ps : List Arg) (pos pos' : List (Option Bytes)), (∀ p ∈ ps, p ∈ c.args) →
    posPass u members fo ps pos = some pos' → getSlot pos i = some s → getSlot pos' i = some s := by
  intro ps pos pos' hps h hs
  rw [posPass_spec h i, hs]
  -- only `a` rewrites slot `i`, and it keeps what it finds
  refine foldl_inv (I := (· = some s)) (fun p hp cur hc => ?_) rfl
  obtain ⟨hpm, hl'⟩ := List.mem_filter.mp hp
  have hpi : p.index = some i := by simp [looksAt] at hl'; exact hl'.2
  cases inj p (hps p hpm) a ha i hpi hi
  rw [hc]; exact posNew_keeps hl s

/-- **a requested positional is written in its own slot**: with unique positional indices, a requested positional
that is not `last` has its slot filled with exactly its own display - unless a required group that is itself written
covers it -/
theorem required_positional_listed (c : Cmd) (u : UInfo) (inj : IdxInj c) (required incls : List Id) (fo : Bool)
    (opts groups : List Bytes) (pos : List (Option Bytes)) (h : argParts c u required incls fo = some (opts, groups, pos))
    (q : Id) (hq : q ∈ unrolledReqs c required relevantStatic ++ incls) (a : Arg) (hf : c.find q = some a)
    (i : Nat) (hi : a.index = some i) (hl : a.last = false) :
    getSlot pos i = some (stylized u a (!fo)) ∨
    ∃ g ∈ unrolledReqs c required relevantStatic ++ incls, ∃ l s,
      argsInGroup c g = some l ∧ a.id ∈ l ∧ formatGroup c u g = some s ∧ s ∈ groups := by
  obtain ⟨members, pos0, hg, ha, hpp⟩ := argParts_some h
  have ham := (C03.find_mem hf).1
  cases hm : members.contains a.id with
  | true => exact Or.inr (covered hg (List.contains_iff_mem.mp hm))
  | false =>
    exact Or.inl (posPass_keeps c u inj members fo a i ham hi hl _ _ _ _ (fun p hp => (positionals_mem c p hp).1) hpp
      (argPass_slot c u inj members _ a i ham hi _ _ _ _ _ ha (Or.inr ⟨⟨q, hq, hf⟩, hm⟩)))

/-- non-vacuity: the example level of `C12Usage.lean` (`--out <o>`, a hidden flag, positionals 1 and 2) has unique indices -/
example : IdxInj exCmd := by
  intro a ha b hb i h1 h2
  simp only [exCmd, Cmd.args, List.mem_cons, List.not_mem_nil, or_false] at ha hb
  rcases ha with rfl | rfl | rfl | rfl <;> rcases hb with rfl | rfl | rfl | rfl <;> simp_all <;> omega

end Clap.C12U

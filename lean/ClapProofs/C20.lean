/-
C20 — Text wrapping keeps every word, in order, within the requested width.
Statements quantify over every text (`List Char`), every width and every
character-width function `cw`.
-/
import ClapProofs.Lemmas.Wrap
import ClapProofs.Lemmas.WrapWidth
import ClapProofs.Lemmas.WrapWidthW
namespace Clap.C20
open Clap TextWrap

/-! #### 1. plain text: the non-whitespace characters are unchanged, in order -/

theorem wrapLines_strip (cw : Char → Nat) (hard : Nat) : ∀ lines : List Str,
    strip (wrapLines cw hard lines).flatten = strip lines.flatten
  | [] => by simp [wrapLines]
  | l :: ls => by
    simp only [wrapLines, List.flatten_append, strip_append, List.flatten_cons]
    rw [wrapLines_strip cw hard ls]
    have := (LWwrap_strip cw (LW.new hard) (findWords l) (by simp [LW.new])).1
    rw [this, findWords_flatten]

/-- **every word survives, in order**: wrapping any text to any width never
loses, invents or reorders a non-whitespace character -/
theorem wrap_preserves_words (cw : Char → Nat) (text : Str) (w : Nat) :
    strip (wrap cw text w) = strip text := by
  unfold wrap
  rw [wrapLines_strip, splitInclusive_flatten]

example : wrap (fun _ => 1) "To be, or not to be".toList 10 = "To be, or\nnot to be".toList := by decide +kernel
example : strip (wrap (fun _ => 1) "  aaa bbb ccc".toList 6) = "aaabbbccc".toList := by decide +kernel

/-! #### 2. styled text: escape sequences intact and in order, visible content preserved -/

def escs : List Seg → List Str
  | [] => []
  | .esc e :: r => e :: escs r
  | .text _ :: r => escs r

def texts : List Seg → Str
  | [] => []
  | .esc _ :: r => texts r
  | .text t :: r => t ++ texts r

theorem styledLines_strip (cw : Char → Nat) : ∀ (lines : List Str) (st : LW) (atStart : Bool),
    (∀ c, st.carry = some c → strip c = []) →
    strip (styledLines cw st atStart lines).2.flatten = strip lines.flatten ∧
    (∀ c, (styledLines cw st atStart lines).1.1.carry = some c → strip c = [])
  | [], st, _, hc => by simp [styledLines]; exact hc
  | l :: ls, st, atStart, hc => by
    unfold styledLines
    simp only
    have h0 : ∀ c, (if atStart then st.reset else st).carry = some c → strip c = [] := by
      split
      · simp [LW.reset]
      · exact hc
    obtain ⟨a1, a2, _⟩ := LWwrap_strip cw (if atStart then st.reset else st) (findWords l) h0
    obtain ⟨b1, b2⟩ := styledLines_strip cw ls ((if atStart then st.reset else st).wrap cw (findWords l)).1 (endsNl l) a2
    refine ⟨?_, b2⟩
    simp only [List.flatten_append, strip_append, List.flatten_cons]
    rw [a1, b1, findWords_flatten]

/-- the styling sequences of the output are those of the input, each intact, in order -/
theorem styled_escapes_preserved (cw : Char → Nat) : ∀ (segs : List Seg) (st : LW) (b : Bool),
    escs (styledSegs cw st b segs) = escs segs
  | [], _, _ => rfl
  | .esc e :: r, st, b => by simp [styledSegs, escs, styled_escapes_preserved cw r st b]
  | .text t :: r, st, b => by simp [styledSegs, escs, styled_escapes_preserved cw r _ _]

/-- the visible (non-whitespace) text between the styling sequences is unchanged -/
theorem styled_preserves_words (cw : Char → Nat) : ∀ (segs : List Seg) (st : LW) (b : Bool),
    (∀ c, st.carry = some c → strip c = []) →
    strip (texts (styledSegs cw st b segs)) = strip (texts segs)
  | [], _, _, _ => rfl
  | .esc e :: r, st, b, hc => by simp [styledSegs, texts, styled_preserves_words cw r st b hc]
  | .text t :: r, st, b, hc => by
    obtain ⟨a, b'⟩ := styledLines_strip cw (splitInclusive t) st b hc
    simp only [styledSegs, texts, strip_append]
    rw [styled_preserves_words cw r _ _ b', a, splitInclusive_flatten]

/-- at the start of a line the wrapper starts afresh: what was wrapped before (its line width, its indent) has no
influence on the lines that follow - also across a change of style (finding F25, repaired) -/
theorem styledLines_fresh (cw : Char → Nat) (st st' : LW) (h : st.hard = st'.hard) (l : Str) (ls : List Str) :
    styledLines cw st true (l :: ls) = styledLines cw st' true (l :: ls) := by
  have hr : st.reset = st'.reset := by simp [LW.reset, h]
  unfold styledLines
  simp only [↓reduceIte, hr]

theorem LWwrap_hard (cw : Char → Nat) (st : LW) (ws : List Str) : (st.wrap cw ws).1.hard = st.hard := by
  rw [LWwrap_eq, (wrapLoop_state cw ws _ true []).1, LW.start_hard]

theorem styledLines_hard (cw : Char → Nat) : ∀ (lines : List Str) (st : LW) (b : Bool),
    (styledLines cw st b lines).1.1.hard = st.hard
  | [], _, _ => rfl
  | l :: ls, st, b => by
    unfold styledLines
    simp only
    rw [styledLines_hard cw ls, LWwrap_hard]
    split <;> simp [LW.reset]

/-- whole styled texts: once a line has ended, the rest is wrapped as if nothing had come before -/
theorem styledSegs_fresh (cw : Char → Nat) : ∀ (segs : List Seg) (st st' : LW), st.hard = st'.hard →
    styledSegs cw st true segs = styledSegs cw st' true segs
  | [], _, _, _ => rfl
  | .esc e :: r, st, st', h => by simp [styledSegs, styledSegs_fresh cw r st st' h]
  | .text t :: r, st, st', h => by
    unfold styledSegs
    cases hs : splitInclusive t with
    | nil => simp [styledLines, styledSegs_fresh cw r st st' h]
    | cons l ls => rw [styledLines_fresh cw st st' h l ls]

example : styledWrap (fun _ => 1) [.text "  aa bb\n".toList, .esc "\x1b[1m".toList, .text "cc dd ee".toList] 5 =
    "  aa\n  bb\n\x1b[1mcc dd\nee".toList := by decide +kernel

/-- an SGR sequence `ESC [ params m` contributes nothing to the display width -/
theorem displayWidth_sgr_zero (cw : Char → Nat) (params rest : Str) (h : ∀ c ∈ params, c ≠ 'm') :
    displayWidth cw ('\x1b' :: params ++ 'm' :: rest) = displayWidth cw rest := by
  have aux : ∀ ps : Str, (∀ c ∈ ps, c ≠ 'm') →
      displayWidthAux cw true (ps ++ 'm' :: rest) = displayWidthAux cw false rest := by
    intro ps
    induction ps with
    | nil => intro _; simp [displayWidthAux, isAsciiControl]
    | cons p ps ih =>
      intro hp
      have hpm : p ≠ 'm' := hp p (by simp)
      have ih' := ih (fun c hc => hp c (by simp [hc]))
      simp only [List.cons_append, displayWidthAux]
      split
      · exact ih'
      · simp [hpm]; exact ih'
  simp only [displayWidth, List.cons_append, displayWidthAux]
  have : isAsciiControl '\x1b' = true := by decide
  simp [this, aux params h]

example : displayWidth (fun _ => 1) "\x1b[1;31mab\x1b[0m".toList = 2 := by decide +kernel

/-! #### 5. text that fits is left alone
One induction (`wrapLoop_nobreak`): the loop never breaks while everything up to the visible end of the last word fits
(`tightCost`; by monotonicity the last word is the binding one). The wrapper's own measure of a line (`lineCost`) and,
on plain text, its length are upper bounds of `tightCost`, so the other forms are corollaries. -/

def lineCost (cw : Char → Nat) (line : Str) : Nat := ((findWords line).map (wordCost cw)).sum

/-- the trailing whitespace of a line's last word (its `"\n"` included) does not count -/
def tightCost (cw : Char → Nat) : List Str → Nat
  | [] => 0
  | [w] => displayWidth cw (trimEnd w)
  | w :: r => wordCost cw w + tightCost cw r

theorem tightCost_le (cw : Char → Nat) : ∀ ws : List Str, tightCost cw ws ≤ (ws.map (wordCost cw)).sum
  | [] => Nat.le_refl _
  | [w] => by simp [tightCost, wordCost]
  | w :: w2 :: r => by
    have := tightCost_le cw (w2 :: r)
    simp only [tightCost, List.map_cons, List.sum_cons] at this ⊢
    omega

/-- for ANY words - wide, zero-width, control characters, escape sequences included: while the tight measure of what is
left fits, the loop appends and never breaks -/
theorem wrapLoop_nobreak (cw : Char → Nat) : ∀ (ws : List Str) (st : LW) (first : Bool) (acc : List Str),
    st.lineWidth + tightCost cw ws ≤ st.hard →
    wrapLoop cw st first acc ws =
      ({ st with lineWidth := st.lineWidth + (ws.map (wordCost cw)).sum }, ws.reverse ++ acc)
  | [], st, first, acc, _ => by simp [wrapLoop]
  | [w], st, first, acc, h => by
    simp only [tightCost] at h
    rw [wrapLoop_cons, if_neg (by simp only [Bool.and_eq_true, decide_eq_true_eq]; omega)]
    simp [wrapLoop]
  | w :: w2 :: r, st, first, acc, h => by
    simp only [tightCost] at h
    have hw : displayWidth cw (trimEnd w) ≤ wordCost cw w := Nat.le_add_right _ _
    rw [wrapLoop_cons, if_neg (by simp only [Bool.and_eq_true, decide_eq_true_eq]; omega),
      wrapLoop_nobreak cw (w2 :: r) ⟨_, _, _⟩ false (w :: acc) (by simp only; omega)]
    simp [Nat.add_assoc]

theorem wrapLoop_fits_tight (cw : Char → Nat) : ∀ (ws : List Str) (st : LW) (first : Bool) (acc : List Str),
    st.lineWidth + tightCost cw ws ≤ st.hard → (wrapLoop cw st first acc ws).2 = ws.reverse ++ acc := by
  intro ws st first acc h
  rw [wrapLoop_nobreak cw ws st first acc h]

theorem wrapLoop_fits_any (cw : Char → Nat) : ∀ (ws : List Str) (st : LW) (first : Bool) (acc : List Str),
    st.lineWidth + (ws.map (wordCost cw)).sum ≤ st.hard →
    wrapLoop cw st first acc ws =
      ({ st with lineWidth := st.lineWidth + (ws.map (wordCost cw)).sum }, ws.reverse ++ acc) :=
  fun ws st first acc h => wrapLoop_nobreak cw ws st first acc (Nat.le_trans (Nat.add_le_add_left (tightCost_le cw ws) _) h)

/-- on a plain word the wrapper's bookkeeping (display width of the trimmed word plus the trailing bytes) is the word's length -/
theorem plain_word_cost (cw : Char → Nat) (w : Str) (h : Plain cw w) :
    displayWidth cw (trimEnd w) + (byteLen w - byteLen (trimEnd w)) = w.length := by
  obtain ⟨h1, h2, h3⟩ := word_facts cw w h.splain
  rw [h1, h2, ← dw_plain h]
  exact Nat.add_sub_of_le h3

theorem plain_words_cost (cw : Char → Nat) (ws : List Str) (hp : ∀ w ∈ ws, Plain cw w) :
    ws.map (wordCost cw) = ws.map List.length :=
  List.map_congr_left (fun w hw => plain_word_cost cw w (hp w hw))

/-- the loop never breaks a line whose words all fit in what is left of the width -/
theorem wrapLoop_fits (cw : Char → Nat) : ∀ (ws : List Str) (st : LW) (first : Bool) (acc : List Str),
    (∀ w ∈ ws, Plain cw w) → st.lineWidth + (ws.map List.length).sum ≤ st.hard →
    wrapLoop cw st first acc ws =
      ({ st with lineWidth := st.lineWidth + (ws.map List.length).sum }, ws.reverse ++ acc) := by
  intro ws st first acc hp
  rw [← plain_words_cost cw ws hp]
  exact wrapLoop_fits_any cw ws st first acc

/-- on plain text the wrapper's measure of a line is its length (so `wrap_fits_unchanged` is the plain instance) -/
theorem lineCost_plain (cw : Char → Nat) (line : Str) (hp : Plain cw line) : lineCost cw line = line.length := by
  rw [lineCost, plain_words_cost cw _ (fun w hw c hc => hp c (mem_of_mem_findWords hw hc)), ← List.length_flatten, findWords_flatten]

/-- a line is returned word for word as soon as everything up to the end of its last word's visible text fits: a
terminated line of exactly `hard` columns is not broken -/
theorem wrap_line_fits_tight (cw : Char → Nat) (hard : Nat) (line : Str) (hfit : tightCost cw (findWords line) ≤ hard) :
    ((LW.new hard).wrap cw (findWords line)).2 = findWords line := by
  rw [LWwrap_eq, wrapLoop_fits_tight cw _ _ true [] (by simpa [LW.new] using hfit)]
  simp

theorem wrap_line_fits_any (cw : Char → Nat) (hard : Nat) (line : Str) (hfit : lineCost cw line ≤ hard) :
    ((LW.new hard).wrap cw (findWords line)).2 = findWords line :=
  wrap_line_fits_tight cw hard line (Nat.le_trans (tightCost_le cw _) hfit)

/-- **text that fits is never broken**: a line of plain text no longer than the width comes out of the wrapper as the
very same words, with no line break inserted and nothing trimmed - so the width bound above is not met by breaking more
often than needed on such lines. -/
theorem wrap_fits_unchanged (cw : Char → Nat) (hard : Nat) (line : Str) (hp : Plain cw line) (hfit : line.length ≤ hard) :
    ((LW.new hard).wrap cw (findWords line)).2 = findWords line :=
  wrap_line_fits_any cw hard line (by rw [lineCost_plain cw line hp]; exact hfit)

/-- a whole plain line that fits is returned byte for byte -/
theorem wrap_fits_flatten (cw : Char → Nat) (hard : Nat) (line : Str) (hp : Plain cw line) (hfit : line.length ≤ hard) :
    ((LW.new hard).wrap cw (findWords line)).2.flatten = line := by
  rw [wrap_fits_unchanged cw hard line hp hfit, findWords_flatten]

/-- non-vacuity: "aaa  bbb ccc " fits width 13 and is returned as it is; at width 11 it is not -/
example : ((LW.new 13).wrap (fun _ => 1) (findWords "aaa  bbb ccc ".toList)).2.flatten = "aaa  bbb ccc ".toList := by decide +kernel
example : ((LW.new 11).wrap (fun _ => 1) (findWords "aaa  bbb ccc ".toList)).2.flatten ≠ "aaa  bbb ccc ".toList := by decide +kernel

example : tightCost (fun _ => 1) (findWords "aaa bbb\n".toList) = 7 ∧ lineCost (fun _ => 1) "aaa bbb\n".toList = 8 := by decide +kernel

/-- **`textwrap::wrap` is the identity on text every line of which fits, tight form**: any characters, any number of
lines; a line's terminator and the blanks in front of it do not count -/
theorem wrap_fits_identity_tight (cw : Char → Nat) (content : Str) (hard : Nat)
    (hfit : ∀ line ∈ splitInclusive content, tightCost cw (findWords line) ≤ hard) :
    wrap cw content hard = content := by
  have aux : ∀ lines : List Str, (∀ l ∈ lines, tightCost cw (findWords l) ≤ hard) →
      (wrapLines cw hard lines).flatten = lines.flatten := by
    intro lines
    induction lines with
    | nil => intro _; simp [wrapLines]
    | cons l ls ih =>
      intro h
      simp only [wrapLines, List.flatten_append, List.flatten_cons]
      rw [wrap_line_fits_tight cw hard l (h l List.mem_cons_self), findWords_flatten,
        ih (fun x hx => h x (List.mem_cons_of_mem _ hx))]
  unfold wrap
  rw [aux _ hfit, splitInclusive_flatten]

/-- **`textwrap::wrap` is the identity on text every line of which fits** - any characters, any number of lines, the
line terminators included (a trailing `"\n"` is trimmed from the last word's width and counted in bytes, as the code does) -/
theorem wrap_fits_identity (cw : Char → Nat) (content : Str) (hard : Nat)
    (hfit : ∀ line ∈ splitInclusive content, lineCost cw line ≤ hard) :
    wrap cw content hard = content :=
  wrap_fits_identity_tight cw content hard (fun l hl => Nat.le_trans (tightCost_le cw _) (hfit l hl))

/-- non-vacuity: two lines with a wide character (two columns) fit width 6 and come back unchanged; at width 4 the first line is broken -/
example : (∀ line ∈ splitInclusive "ab 世\ncd".toList, lineCost (fun c => if c == '世' then 2 else 1) line ≤ 6) ∧
    wrap (fun c => if c == '世' then 2 else 1) "ab 世\ncd".toList 6 = "ab 世\ncd".toList := by decide +kernel
example : wrap (fun c => if c == '世' then 2 else 1) "ab 世\ncd".toList 4 = "ab\n世\ncd".toList := by decide +kernel

/-- non-vacuity: two terminated lines of exactly 7 columns at width 7 -/
example : (∀ line ∈ splitInclusive "aaa bbb\nccc ddd\n".toList, tightCost (fun _ => 1) (findWords line) ≤ 7) ∧
    wrap (fun _ => 1) "aaa bbb\nccc ddd\n".toList 7 = "aaa bbb\nccc ddd\n".toList := by decide +kernel

/-! #### 7. within the requested width, in display columns (wide and zero-width characters); one column per character is the instance `fun _ => 1` -/

/-- the hanging indent `LineWrapper` carries over to continuation lines: the first word when it is all whitespace -/
def indentOf (words : List Str) : Nat :=
  match words with
  | w :: _ => if w.all isWs then w.length else 0
  | [] => 0


theorem carryLen_start_new (hard : Nat) (ws : List Str) : carryLen ((LW.new hard).start ws) = indentOf ws := by
  cases ws with
  | nil => rfl
  | cons w r => simp only [LW.start, LW.new, carryLen, indentOf, Option.getD_some]; split <;> rfl

/-- **the width bound in display columns**: for one line of text with characters of ANY width (wide, zero-width,
multi-byte) - no control characters, the space the only whitespace and one column wide - wrapping at ANY width yields
lines each of which, trailing spaces aside, either fits the width in columns or is no wider than the hanging indent
plus one word of the input. `wrap_line_width` is the instance where every character is one column and one byte. -/
theorem wrap_line_width_cols (cw : Char → Nat) (hard : Nat) (line : Str) (hp : SPlain cw line) :
    ∀ l ∈ linesOf ((LW.new hard).wrap cw (findWords line)).2.reverse,
      lineTrimW cw l ≤ hard ∨ ∃ w ∈ findWords line, lineTrimW cw l ≤ indentOf (findWords line) + dw cw (trimSp w) := by
  have hwords : ∀ w ∈ findWords line, SPlain cw w := fun w hw c hc => hp c (mem_of_mem_findWords hw hc)
  have hg := wrapLoop_cols cw (findWords line) (findWords line) ((LW.new hard).start (findWords line)) true []
    (fun w hw => ⟨hwords w hw, hw⟩) (fun e he => nomatch he)
    ((LW.new hard).start_carry _ (fun c hc => nomatch hc)
      -- an all-whitespace first word of such a line is all spaces, so the indent measures its length in bytes and columns
      (fun w hw hall => have hs := hwords w (List.mem_of_mem_head? hw)
        ⟨hs, spaces_measure cw w hs (List.all_eq_true.2 fun x hx => by simp [(hs x hx).2.1 (List.all_eq_true.1 hall x hx)])⟩)
      ⟨fun x hx => (nomatch hx), rfl, rfl⟩)
    (fun _ => rfl) (by simp [LW.new, cur, linesOf, lineW])
    (by intro l hl; simp [linesOf] at hl; subst hl; exact Or.inl (Nat.zero_le _))
  rw [LWwrap_eq, List.reverse_reverse]
  simpa only [LW.start_hard, carryLen_start_new, GoodW, show (LW.new hard).hard = hard from rfl] using hg

/-- non-vacuity: "世界 bb 世" with two-column ideographs at width 6: lines of 4 and 5 columns -/
example : (linesOf ((LW.new 6).wrap (fun c => if c == '世' || c == '界' then 2 else 1)
    (findWords "世界 bb 世".toList)).2.reverse).map (lineTrimW (fun c => if c == '世' || c == '界' then 2 else 1)) = [5, 4] := by decide +kernel
example : SPlain (fun c => if c == '世' || c == '界' then 2 else 1) "世界 bb 世".toList := by unfold SPlain; decide +kernel

/-- **no line is wider than requested unless a single word is**: wrapping one line of plain text
(printable, one column and one byte per character, spaces the only whitespace) at ANY width yields
lines each of which - trailing spaces aside - either fits the width or is no longer than the hanging
indent plus one word of the input. `linesOf` groups the emitted pieces between the `"\n"` pieces. -/
theorem wrap_line_width (cw : Char → Nat) (hard : Nat) (line : Str) (hp : Plain cw line) :
    ∀ l ∈ linesOf ((LW.new hard).wrap cw (findWords line)).2.reverse,
      lineTrimLen l ≤ hard ∨ ∃ w ∈ findWords line, lineTrimLen l ≤ indentOf (findWords line) + (trimSp w).length := by
  rw [LWwrap_congr cw (fun _ => 1) _ _ (fun w hw c hc => (hp c (mem_of_mem_findWords hw hc)).1)]
  simpa only [lineTrimW_one, dw_one] using wrap_line_width_cols (fun _ => 1) hard line hp.splain_one

/-- non-vacuity: "aaa bbb ccc" at width 7 -/
example : (linesOf ((LW.new 7).wrap (fun _ => 1) (findWords "aaa bbb ccc".toList)).2.reverse).map lineTrimLen = [3, 7] := by decide +kernel

/-! #### 8. the bound on the text `textwrap::wrap` returns -/

theorem splitInclusiveAux_nonl : ∀ (s cur : Str), (∀ c ∈ s, c ≠ '\n') →
    splitInclusiveAux cur s = if (cur.reverse ++ s).isEmpty then [] else [cur.reverse ++ s]
  | [], cur, _ => by simp [splitInclusiveAux]
  | c :: cs, cur, h => by
    have hc : (c == '\n') = false := by simpa using h c List.mem_cons_self
    unfold splitInclusiveAux
    simp only [hc, Bool.false_eq_true, ↓reduceIte]
    rw [splitInclusiveAux_nonl cs (c :: cur) (fun x hx => h x (List.mem_cons_of_mem _ hx))]
    simp

/-- **end to end for a paragraph without line breaks**: what `textwrap::wrap` returns for such a text IS a list of lines
joined by `"\n"` (`render`), and every one of those lines, trailing spaces aside, fits the width in display columns or is
no wider than the hanging indent plus one word of the text. -/
theorem wrap_width_text (cw : Char → Nat) (content : Str) (hard : Nat) (hp : SPlain cw content) :
    ∃ ls : List (List Str), wrap cw content hard = render ls ∧
      ∀ l ∈ ls, lineTrimW cw l ≤ hard ∨
        ∃ w ∈ findWords content, lineTrimW cw l ≤ indentOf (findWords content) + dw cw (trimSp w) := by
  have hnl : ∀ c ∈ content, c ≠ '\n' := by
    intro c hc e
    subst e
    have := (hp '\n' hc).1
    simp [isAsciiControl] at this
  have hsplit := splitInclusiveAux_nonl content [] hnl
  simp only [List.reverse_nil, List.nil_append] at hsplit
  by_cases he : content.isEmpty = true
  · refine ⟨[], ?_, by intro l hl; simp at hl⟩
    simp [wrap, splitInclusive, hsplit, he, wrapLines, render]
  · refine ⟨linesOf ((LW.new hard).wrap cw (findWords content)).2.reverse, ?_, wrap_line_width_cols cw hard content hp⟩
    rw [← flatten_eq_render]
    simp [wrap, splitInclusive, hsplit, he, wrapLines]

example : wrap (fun _ => 1) "aaa bbb ccc".toList 7 = "aaa bbb\nccc".toList := by decide +kernel

/-! #### 9. styled text that fits is left alone -/

theorem LWwrap_fits (cw : Char → Nat) (st : LW) (words : List Str)
    (h : st.lineWidth + (words.map (wordCost cw)).sum ≤ st.hard) :
    (st.wrap cw words).2 = words ∧ (st.wrap cw words).1.hard = st.hard ∧
    (st.wrap cw words).1.lineWidth = st.lineWidth + (words.map (wordCost cw)).sum := by
  rw [LWwrap_eq, wrapLoop_fits_any cw words _ true [] (by simpa using h)]
  simp

def linesCost (cw : Char → Nat) (lines : List Str) : Nat := (lines.map (lineCost cw)).sum

theorem styledLines_fits (cw : Char → Nat) : ∀ (lines : List Str) (st : LW) (b : Bool),
    st.lineWidth + linesCost cw lines ≤ st.hard →
    (styledLines cw st b lines).2.flatten = lines.flatten ∧ (styledLines cw st b lines).1.1.hard = st.hard ∧
    (styledLines cw st b lines).1.1.lineWidth ≤ st.lineWidth + linesCost cw lines
  | [], st, b, _ => by simp [styledLines, linesCost]
  | line :: ls, st, b, h => by
    have hcons : linesCost cw (line :: ls) = lineCost cw line + linesCost cw ls := by simp [linesCost]
    have hlc : ((findWords line).map (wordCost cw)).sum = lineCost cw line := rfl
    rw [hcons] at h ⊢
    unfold styledLines
    have h0 : (if b = true then st.reset else st).lineWidth ≤ st.lineWidth ∧ (if b = true then st.reset else st).hard = st.hard := by
      split <;> simp [LW.reset]
    obtain ⟨w1, w2, w3⟩ := LWwrap_fits cw (if b = true then st.reset else st) (findWords line)
      (by rw [hlc, h0.2]; exact Nat.le_trans (Nat.add_le_add h0.1 (Nat.le_add_right _ _)) h)
    rw [hlc] at w3
    have ih := styledLines_fits cw ls ((if b = true then st.reset else st).wrap cw (findWords line)).1 (endsNl line)
      (by rw [w2, w3, h0.2, Nat.add_assoc]; exact Nat.le_trans (Nat.add_le_add_right h0.1 _) h)
    obtain ⟨i1, i2, i3⟩ := ih
    simp only [List.flatten_cons]
    refine ⟨?_, ?_, ?_⟩
    · simp only [List.flatten_append, i1, w1, findWords_flatten]
    · rw [i2, w2]; exact h0.2
    · rw [w3, Nat.add_assoc] at i3
      exact Nat.le_trans i3 (Nat.add_le_add_right h0.1 _)

def segsCost (cw : Char → Nat) : List Seg → Nat
  | [] => 0
  | .esc _ :: r => segsCost cw r
  | .text t :: r => linesCost cw (splitInclusive t) + segsCost cw r

theorem styledSegs_fits (cw : Char → Nat) : ∀ (segs : List Seg) (st : LW) (b : Bool),
    st.lineWidth + segsCost cw segs ≤ st.hard →
    flattenSegs (styledSegs cw st b segs) = flattenSegs segs
  | [], _, _, _ => rfl
  | .esc e :: r, st, b, h => by
    simp only [styledSegs, flattenSegs, List.map_cons, List.flatten_cons]
    have := styledSegs_fits cw r st b (by simpa [segsCost] using h)
    simp only [flattenSegs] at this
    rw [this]
  | .text t :: r, st, b, h => by
    simp only [segsCost] at h
    rw [← Nat.add_assoc] at h
    obtain ⟨s1, s2, s3⟩ := styledLines_fits cw (splitInclusive t) st b (Nat.le_trans (Nat.le_add_right _ _) h)
    have := styledSegs_fits cw r (styledLines cw st b (splitInclusive t)).1.1 (styledLines cw st b (splitInclusive t)).1.2
      (by rw [s2]; exact Nat.le_trans (Nat.add_le_add_right s3 _) h)
    simp only [styledSegs, flattenSegs, List.map_cons, List.flatten_cons, Seg.chars] at this ⊢
    rw [this, s1, splitInclusive_flatten]

/-- **`StyledStr::wrap` leaves styled text that fits alone**: when the wrapper's own measure of all the text between the
escape sequences fits the width, the result is the input - text and escape sequences, byte for byte - up to the final
`trim_end` the function always applies -/
theorem styled_fits_identity (cw : Char → Nat) (segs : List Seg) (hard : Nat) (h : segsCost cw segs ≤ hard) :
    styledWrap cw segs hard = trimEnd (flattenSegs segs) := by
  unfold styledWrap
  rw [styledSegs_fits cw segs (LW.new hard) false (by simpa [LW.new] using h)]

example : segsCost (fun _ => 1) [.text "aa bb\n".toList, .esc "\x1b[1m".toList, .text "cc dd".toList] = 11 := by decide +kernel

end Clap.C20

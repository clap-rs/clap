/-
C05 — Everything after `--` is delivered verbatim as positional values.
-/
import ClapProofs.C01
namespace Clap.C05
open Clap Parser

/-- the loop ended by dispatching to a (flag/external) subcommand -/
def dispatched : Except EK LoopEnd → Bool
  | .ok (.sub ..) => true
  | .ok (.external ..) => true
  | _ => false

/-- after the escape every token goes to the positional part -/
theorem loop_trailing (c : Cmd) (similar : Bytes → Bytes → Bool) (ls : LoopSt) (tok : Bytes) (rest : List Bytes) (p : P)
    (h : ls.trailing = true) :
    loop c similar ls (tok :: rest) p =
      positionalPart c similar tok rest (fun ls p => loop c similar ls rest p) ls p := by
  rw [loop]
  simp only [h, ↓reduceIte]

/-- **after the escape nothing is interpreted**: once `trailing_values` is set, no
token - whatever it looks like - is classified as a flag, option, help/version
request or subcommand; the loop can only end by exhausting argv or with an
error raised by the positional machinery. For every command (without external
subcommands), every state and every tail. -/
theorem trailing_never_dispatches (c : Cmd) (similar : Bytes → Bytes → Bool)
    (hext : c.settings.allowExternalSubcommands = false) :
    ∀ (toks : List Bytes) (ls : LoopSt) (p : P), ls.trailing = true → dispatched (loop c similar ls toks p).2 = false := by
  intro toks
  induction toks with
  | nil => intro ls p _; simp [loop, dispatched]
  | cons tok rest ih =>
    intro ls p htr
    rw [loop_trailing c similar ls tok rest p htr]
    unfold positionalPart
    simp only [htr, Bool.true_or]
    split
    · next a _ =>
      split
      · simp [dispatched]
      · split
        · simp [dispatched]
        · split
          · exact ih _ _ rfl
          · split
            · simp [dispatched]
            · split
              · exact ih _ _ rfl
              · exact ih _ _ rfl
    · simp only [hext, Bool.false_eq_true, ↓reduceIte]
      simp [dispatched]

/-- **the first bare `--` switches the loop to positional-only mode** (unless the
arg currently collecting values accepts hyphen values, in which case `--` is one of its values) -/
theorem escape_sets_trailing (c : Cmd) (similar : Bytes → Bytes → Bool) (ls : LoopSt) (rest : List Bytes) (p : P)
    (htr : ls.trailing = false)
    (hsc : (if c.settings.subcommandPrecedenceOverArg || ls.st == .valuesDone
            then possibleSubcommand c [Bytes.dash, Bytes.dash] ls.validArgFound else none) = none)
    (sa : Option Arg) (hsa : stateArg c ls.st = some sa) (hh : (sa.map (·.allowHyphen)).getD false = false) :
    loop c similar ls ([Bytes.dash, Bytes.dash] :: rest) p =
      loop c similar { ls with trailing := true } rest (startTrailing p) := by
  rw [loop]
  have he : ParsedArg.isEscape [Bytes.dash, Bytes.dash] = true := rfl
  simp only [htr, Bool.false_eq_true, ↓reduceIte, hsc, he, hsa, hh]

/-- **a token after the escape is stored byte-for-byte**: with the multi-valued
positional already collecting, the token is appended unchanged to its pending
values (and marked as trailing), whatever its bytes are -/
theorem trailing_push_verbatim (c : Cmd) (similar : Bytes → Bytes → Bool) (ls : LoopSt) (tok : Bytes) (rest : List Bytes)
    (p : P) (a : Arg) (htr : ls.trailing = true)
    (hpos : c.getPos (correctPosCounter c ls rest.head?) = some a) (hmul : a.isMultiple = true)
    (hmv : a.isMultipleValues = true) (hterm : isTerminator a tok = false)
    (pd : Pending) (hpd : p.pending = some pd) (hid : pd.id = a.id) (hident : pd.ident = some .index) :
    loop c similar ls (tok :: rest) p =
      loop c similar { ls with st := .pos a.id, posCounter := correctPosCounter c ls rest.head?, validArgFound := true,
                               trailing := true } rest
        { p with pending := some { pd with rawVals := pd.rawVals ++ [tok],
                                            trailingIdx := some (pd.trailingIdx.getD pd.rawVals.length) } } := by
  rw [loop_trailing c similar ls tok rest p htr]
  simp only [positionalPart, htr, ↓reduceIte, hpos, Bool.not_true, Bool.and_false, Bool.false_eq_true, Bool.true_or, hpd, Option.map_some,
    hid, bne_self_eq_false, hmv, Bool.or_self, hterm, pendingPush, Option.getD_some, hident, Option.isSome_some,
    hmul]

/-- the first token the positional receives after the escape: whatever is pending for another arg is resolved, then the
token opens the positional's values -/
theorem trailing_open (c : Cmd) (similar : Bytes → Bytes → Bool) (ls : LoopSt) (tok : Bytes) (rest : List Bytes)
    (p : P) (a : Arg) (htr : ls.trailing = true)
    (hpos : c.getPos (correctPosCounter c ls rest.head?) = some a) (hmul : a.isMultiple = true)
    (hterm : isTerminator a tok = false) (hid : (p.pending.map (·.id) != some a.id) = true) :
    loop c similar ls (tok :: rest) p =
      match resolvePending c p with
      | (q, .error e) => (q, .error e)
      | (q, .ok ()) =>
        loop c similar { ls with st := .pos a.id, posCounter := correctPosCounter c ls rest.head?, validArgFound := true,
                                 trailing := true } rest
          { q with pending := some { id := a.id, ident := some .index, rawVals := [tok], trailingIdx := some 0 } } := by
  rw [loop_trailing c similar ls tok rest p htr]
  simp only [positionalPart, htr, ↓reduceIte, hpos, Bool.not_true, Bool.and_false, Bool.false_eq_true, hid, Bool.true_or, hterm]
  cases hr : resolvePending c p with
  | mk q r =>
    cases r with
    | error e => rfl
    | ok u =>
      have hq := resolvePending_ok_pending c p q u hr
      simp [pendingPush, hq, hmul]

/-- the same for the first token the positional receives (nothing pending yet) -/
theorem trailing_first_verbatim (c : Cmd) (similar : Bytes → Bytes → Bool) (ls : LoopSt) (tok : Bytes) (rest : List Bytes)
    (p : P) (a : Arg) (htr : ls.trailing = true)
    (hpos : c.getPos (correctPosCounter c ls rest.head?) = some a) (hmul : a.isMultiple = true)
    (hterm : isTerminator a tok = false) (hpd : p.pending = none) :
    loop c similar ls (tok :: rest) p =
      loop c similar { ls with st := .pos a.id, posCounter := correctPosCounter c ls rest.head?, validArgFound := true,
                               trailing := true } rest
        { p with pending := some { id := a.id, ident := some .index, rawVals := [tok], trailingIdx := some 0 } } := by
  rw [trailing_open c similar ls tok rest p a htr hpos hmul hterm (by simp [hpd]), resolvePending_none c p hpd]

/-- in trailing mode at the last positional the "correct pos_counter" block leaves the counter where it is,
whatever the next token looks like -/
theorem correctPosCounter_last (c : Cmd) (ls : LoopSt) (peek : Option Bytes)
    (htr : ls.trailing = true) (hpc : ls.posCounter = c.positionalCount) :
    correctPosCounter c ls peek = c.positionalCount := by
  unfold correctPosCounter
  simp [hpc, htr]

/-- **the whole tail reaches the last positional, byte for byte and in order**: in trailing mode, with
the command's last positional `a` taking several values (and no terminator) and already collecting,
ANY list of tokens is appended unchanged to its pending values and the loop ends normally - no token is
dropped, reordered, split or interpreted. Induction over the tail; no bound on its length or contents. -/
theorem trailing_tail_collected (c : Cmd) (similar : Bytes → Bytes → Bool) (a : Arg)
    (hpos : c.getPos c.positionalCount = some a) (hmul : a.isMultiple = true) (hmv : a.isMultipleValues = true)
    (hterm : a.terminator = none) :
    ∀ (toks : List Bytes) (ls : LoopSt) (p : P) (pd : Pending), ls.trailing = true → ls.posCounter = c.positionalCount →
      p.pending = some pd → pd.id = a.id → pd.ident = some .index → toks ≠ [] →
      loop c similar ls toks p =
        ({ p with pending := some { pd with rawVals := pd.rawVals ++ toks,
                                            trailingIdx := some (pd.trailingIdx.getD pd.rawVals.length) } }, .ok .done) := by
  intro toks
  induction toks with
  | nil => intro _ _ _ _ _ _ _ _ h; exact absurd rfl h
  | cons tok rest ih =>
    intro ls p pd htr hpc hpd hid hident _
    have hcp := correctPosCounter_last c ls rest.head? htr hpc
    have ht : isTerminator a tok = false := by simp [isTerminator, hterm]
    rw [trailing_push_verbatim c similar ls tok rest p a htr (by rw [hcp]; exact hpos) hmul hmv ht pd hpd hid hident]
    cases rest with
    | nil => simp [loop]
    | cons t2 r2 =>
      rw [ih _ _ { pd with rawVals := pd.rawVals ++ [tok], trailingIdx := some (pd.trailingIdx.getD pd.rawVals.length) }
        rfl (by simpa using hcp) rfl hid hident (by simp)]
      simp

/-- **`--` then anything**: when the last positional takes several values, is next in line and nothing
is pending, the tokens after a bare `--` - whatever they are - become exactly its raw values, in order -/
theorem escape_then_tail (c : Cmd) (similar : Bytes → Bytes → Bool) (a : Arg) (ls : LoopSt) (p : P)
    (tok : Bytes) (toks : List Bytes)
    (hpos : c.getPos c.positionalCount = some a) (hmul : a.isMultiple = true) (hmv : a.isMultipleValues = true)
    (hterm : a.terminator = none)
    (htr : ls.trailing = false) (hst : ls.st = .valuesDone) (hpc : ls.posCounter = c.positionalCount)
    (hpd : p.pending = none)
    (hsc : possibleSubcommand c [Bytes.dash, Bytes.dash] ls.validArgFound = none) :
    loop c similar ls ([Bytes.dash, Bytes.dash] :: tok :: toks) p =
      ({ p with pending := some { id := a.id, ident := some .index, rawVals := tok :: toks, trailingIdx := some 0 } },
        .ok .done) := by
  rw [escape_sets_trailing c similar ls (tok :: toks) p htr (by simp [hst, hsc]) none (by simp [stateArg, hst]) rfl]
  have hst' : startTrailing p = p := by simp [startTrailing, hpd]
  rw [hst']
  have hcp := correctPosCounter_last c { ls with trailing := true } toks.head? rfl hpc
  have ht : isTerminator a tok = false := by simp [isTerminator, hterm]
  rw [trailing_first_verbatim c similar _ tok toks p a rfl (by rw [hcp]; exact hpos) hmul ht hpd]
  cases toks with
  | nil => simp [loop]
  | cons t2 r2 =>
    rw [trailing_tail_collected c similar a hpos hmul hmv hterm (t2 :: r2) _ _
      { id := a.id, ident := some .index, rawVals := [tok], trailingIdx := some 0 } rfl (by simpa using hcp) rfl rfl rfl (by simp)]
    simp

/-- the hypotheses of `escape_then_tail` are met by `prog [files]...` (one positional taking any number of values) -/
example :
    let a : Arg := { id := [102], index := some 1, numVals := some ⟨1, none⟩ }
    let c : Cmd := .mk [112] [] none none [] [] {} [a] [] []
    c.getPos c.positionalCount = some a ∧ a.isMultiple = true ∧ a.isMultipleValues = true ∧ a.terminator = none ∧
      possibleSubcommand c [Bytes.dash, Bytes.dash] false = none := by
  decide +kernel

end Clap.C05

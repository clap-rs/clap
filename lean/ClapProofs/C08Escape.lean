/-
C08 — an explicit `--` before positional values that do not look like flags leaves the result unchanged
(whole command lines, any length): `prog <opts…> v1 v2 …` and `prog <opts…> -- v1 v2 …` are observed identically
when the values go to single-valued positionals, `dont_delimit_trailing_values` is off and no positional is `last`.
-/
import ClapProofs.C05Line
namespace Clap.C08
open Clap Parser Bytes

/-- without `dont_delimit_trailing_values` the trailing mark plays no role in how values are split -/
theorem splitDelim_noTrailing (c : Cmd) (h : c.settings.dontDelimitTrailingValues = false) (a : Arg) (vals : List Bytes)
    (t : Option Nat) : splitDelim c a vals t = splitDelim c a vals none := by
  have go : ∀ (d : Bytes) (vs : List Bytes) (i : Nat), splitDelim.go c t d i vs = splitDelim.go c none d i vs := by
    intro d vs
    induction vs with
    | nil => intro i; simp [splitDelim.go]
    | cons v vs ih => intro i; simp [splitDelim.go, h, ih]
  unfold splitDelim
  cases a.delim with
  | none => rfl
  | some d => simp [h, go]

theorem reactCore_noTrailing (c : Cmd) (h : c.settings.dontDelimitTrailingValues = false) (ident : Option Ident) (s : Source)
    (a : Arg) (vals : List Bytes) (t : Option Nat) (p : P) :
    reactCore c ident s a vals t p = reactCore c ident s a vals none p :=
  C05.reactCore_trailingIdx c ident s a vals t p (splitDelim_noTrailing c h a vals t)

/-- positional handling after the escape needs no special counter rules -/
structure PlainTrailing (c : Cmd) : Prop where
  noDontDelimit : c.settings.dontDelimitTrailingValues = false
  noMissing : c.settings.allowMissingPositional = false
  noLast : c.args.any (·.last) = false
  noExternal : c.settings.allowExternalSubcommands = false

/-- **a positional value after the escape** (single-valued positional): whatever is pending is resolved, the token is
left pending verbatim for the positional whose turn it is, and the counter moves on - whatever the token looks like -/
theorem trailing_pos_step (c : Cmd) (sp : C02.SimplePos c) (pt : PlainTrailing c) (similar : Bytes → Bytes → Bool)
    (v : Bytes) (a : Arg) (hsingle : C02.SinglePos a)
    (ls : LoopSt) (rest : List Bytes) (p : P) (htr : ls.trailing = true)
    (hget : c.getPos ls.posCounter = some a) :
    loop c similar ls (v :: rest) p =
      match resolvePending c p with
      | (q, .error e) => (q, .error e)
      | (q, .ok ()) =>
        loop c similar { ls with st := .valuesDone, posCounter := ls.posCounter + 1, validArgFound := true } rest
          { q with pending := some { id := a.id, ident := some .index, rawVals := [v], trailingIdx := some 0 } } := by
  have hcp := C02.correctPosCounter_simple sp ls rest.head? (by simp [pt.noLast])
  rw [C05.loop_trailing c similar ls v rest p htr,
    C02.positionalPart_single c similar v rest _ ls p a hsingle (by rw [hcp]; exact hget), hcp]
  simp only [htr, ↓reduceIte]
  rfl

/-- the values after the escape, as the caller of the loop observes them: one `react` per value on the positional
whose turn it is -/
theorem trailing_pos_run (c : Cmd) (wf : C01.WF c) (sp : C02.SimplePos c) (pt : PlainTrailing c) (similar : Bytes → Bytes → Bool) :
    ∀ (vals : List Bytes) (ls : LoopSt), ls.trailing = true →
      (∀ k, k < vals.length → ∃ a, c.getPos (ls.posCounter + k) = some a ∧ C02.SinglePos a) →
      C02.RF c (fun _ => True) (fun p => C02.obs c (loop c similar ls vals p))
        (fun q => C02.runAtomsK c (vals.map C02.Atom.pos) ls.posCounter q (fun _ q' => .ok (q', .done))) := by
  intro vals
  induction vals with
  | nil => intro ls _ _; exact C02.rf_iff.2 (C02.absorbs_done c similar True _ ls _)
  | cons v rest ih =>
    intro ls htr hpos
    obtain ⟨a, hget, hsingle⟩ := hpos 0 (by simp)
    simp only [Nat.add_zero] at hget
    obtain ⟨hfind, _⟩ := C01.getPos_spec wf hget
    have ih' := ih { ls with st := .valuesDone, posCounter := ls.posCounter + 1, validArgFound := true } htr (by
      intro k hk
      have := hpos (k + 1) (by simp; omega)
      simpa [Nat.add_assoc, Nat.add_comm 1 k] using this)
    -- the value is left pending, stamped as trailing; without `dont_delimit_trailing_values` the stamp changes nothing
    have hstamp : ∀ q, (match react c (some .index) .cmdline a [v] (some 0) q with
          | (_, .error e) => .error e
          | (p1, .ok _) => C02.runAtomsK c (rest.map C02.Atom.pos) (ls.posCounter + 1) p1 (fun _ q' => .ok (q', .done))) =
        C02.runAtomsK c ((v :: rest).map C02.Atom.pos) ls.posCounter q (fun _ q' => .ok (q', .done)) := by
      intro q
      rw [List.map_cons, C02.runAtomsK_found c (x := .pos v) _ q _ hget]
      unfold Parser.react
      simp only [reactCore_noTrailing c pt.noDontDelimit (some .index) .cmdline a [v] (some 0)]
      rfl
    refine C02.rf_iff.2 (fun p h0 hJ => ?_)
    rw [trailing_pos_step c sp pt similar v a hsingle ls rest p htr hget]
    exact (C02.obs_thenU c _ _).trans ((((C02.rf_iff.1 ih').ofPend .index a v (some 0) hfind trivial).congr_rhs hstamp) p h0 hJ)

/-- positional values as occurrences -/
theorem okAll3_pos (c : Cmd) : ∀ (vals : List Bytes) (pc : Nat),
    (∀ v ∈ vals, C02.NoSubTok c v ∧ Bytes.startsWith v [dash] = false) →
    (∀ k, k < vals.length → ∃ a, c.getPos (pc + k) = some a ∧ C02.SinglePos a) →
    C02.okAll3 c (vals.map C02.Occ3.pos) pc
  | [], _, _, _ => trivial
  | v :: rest, pc, hv, hp => by
    obtain ⟨h1, h2⟩ := hv v List.mem_cons_self
    refine ⟨h1, h2, by simpa using hp 0 (by simp), okAll3_pos c rest (pc + 1) (fun v' hv' => hv v' (List.mem_cons_of_mem _ hv')) ?_⟩
    intro k hk
    have := hp (k + 1) (by simp; omega)
    simpa [Nat.add_assoc, Nat.add_comm 1 k] using this

theorem flatMap_pos_spell (vals : List Bytes) : (vals.map C02.Occ3.pos).flatMap C02.Occ3.spell = vals := by
  induction vals with
  | nil => rfl
  | cons v rest ih => simp [C02.Occ3.spell, ih]

theorem flatMap_pos_atoms (vals : List Bytes) : (vals.map C02.Occ3.pos).flatMap C02.Occ3.atoms = vals.map C02.Atom.pos := by
  induction vals with
  | nil => rfl
  | cons v rest ih => simp [C02.Occ3.atoms, ih]

/-- nothing that is pending has been marked as trailing -/
def Unmarked : Option Pending → Prop := fun pend => ∀ pd, pend = some pd → pd.trailingIdx = none

/-- **an explicit `--` before positional values changes nothing** (C08, whole command lines): after any prefix in the
scope of the attribution refinement, values that do not look like flags (and are not subcommand names) for
single-valued positionals are observed identically with and without a bare `--` in front of them - provided
`dont_delimit_trailing_values` is off and no positional is `last` (the documented exceptions) -/
theorem explicit_escape_equiv (c : Cmd) (wf : C01.WF c) (sp : C02.SimplePos c) (pp : C02.PlainPos c) (pt : PlainTrailing c)
    (similar : Bytes → Bytes → Bool) (occs : List C02.Occ3) (vals : List Bytes) (ls : LoopSt) (p : P)
    (hok : C02.okAll3 c occs ls.posCounter) (htr : ls.trailing = false) (hst : ls.st = .valuesDone)
    (hfss : p.flagSubSkip = 0) (hpend : Unmarked p.pending)
    (hvals : ∀ v ∈ vals, C02.NoSubTok c v ∧ Bytes.startsWith v [dash] = false)
    (hposs : ∀ k, k < vals.length → ∃ a, c.getPos (C02.pcAfter occs ls.posCounter + k) = some a ∧ C02.SinglePos a)
    (hns : C02.NoSubTok c [dash, dash]) :
    C02.obs c (loop c similar ls (occs.flatMap C02.Occ3.spell ++ vals) p) =
      C02.obs c (loop c similar ls (occs.flatMap C02.Occ3.spell ++ [dash, dash] :: vals) p) := by
  have hJn : Unmarked none := by intro pd h; cases h
  have hJocc : ∀ (a : Arg) (i : Ident) (v : Bytes), c.find a.id = some a → (a.index = none ∨ C02.SinglePos a) →
      Unmarked (some { id := a.id, ident := some i, rawVals := [v], trailingIdx := none }) := by
    intro a i v _ _ pd h; cases h; rfl
  have h1 : (C02.lsAfter ls occs).trailing = false := htr
  have h2 : (C02.lsAfter ls occs).st = .valuesDone := hst
  have h3 : (C02.lsAfter ls occs).posCounter = C02.pcAfter occs ls.posCounter := rfl
  -- without the escape: the values are positional occurrences like any other
  have hendA : C02.RF c Unmarked (fun p' => C02.obs c (loop c similar (C02.lsAfter ls occs) vals p'))
      (fun q => C02.runAtomsK c (vals.map C02.Atom.pos) (C02.pcAfter occs ls.posCounter) q (fun _ q' => .ok (q', .done))) := by
    have hdone : C02.RF c Unmarked
        (fun p' => C02.obs c (loop c similar (C02.lsAfter (C02.lsAfter ls occs) (vals.map C02.Occ3.pos)) [] p'))
        (fun q => .ok (q, .done)) := C02.rf_iff.2 (C02.absorbs_done c similar True _ _ 0)
    have := C02.loop_clusters_then c wf sp pp similar [] Unmarked hJn hJocc (vals.map C02.Occ3.pos) (C02.lsAfter ls occs)
      (okAll3_pos c vals _ hvals (by rw [h3]; exact hposs)) h1 h2 _ hdone
    rw [flatMap_pos_spell, flatMap_pos_atoms, List.append_nil, h3] at this
    exact this
  -- with the escape: trailing mode, one value per positional
  have hendB : C02.RF c Unmarked (fun p' => C02.obs c (loop c similar (C02.lsAfter ls occs) ([dash, dash] :: vals) p'))
      (fun q => C02.runAtomsK c (vals.map C02.Atom.pos) (C02.pcAfter occs ls.posCounter) q (fun _ q' => .ok (q', .done))) := by
    intro p' h0 hJ
    simp only
    rw [C05.escape_sets_trailing c similar _ vals p' h1 (by simp [h2, hns _]) none (by simp [stateArg, h2]) rfl]
    have hrun := trailing_pos_run c wf sp pt similar vals { C02.lsAfter ls occs with trailing := true } rfl (by
      intro k hk; exact hposs k hk)
    have h0' : (startTrailing p').flagSubSkip = 0 := by
      unfold startTrailing; cases p'.pending <;> exact h0
    have := hrun (startTrailing p') h0' trivial
    simp only at this
    rw [this, C05.resolvePending_startTrailing c p' hJ]
    rfl
  have eA := C02.loop_clusters_then c wf sp pp similar vals Unmarked hJn hJocc occs ls hok htr hst _ hendA p hfss hpend
  have eB := C02.loop_clusters_then c wf sp pp similar ([dash, dash] :: vals) Unmarked hJn hJocc occs ls hok htr hst _ hendB p hfss hpend
  simp only at eA eB
  rw [eA, eB]

end Clap.C08

/-
C12 — the usage line with `flatten_help` always renders: on a built tree every level of which is fit for `usage.rs`
(`UsageOk`), `helpUsageTree` reaches no `unwrap` / `expect` / `debug_assert!` at any depth, whatever the per-level
extras (value names, hidden subcommands, flatten switches) are.
-/
import ClapModel
import ClapProofs.C01
import ClapProofs.C12Usage
namespace Clap.C12U
open Clap Usage Validator

/-- every level of the tree, down to `fuel` levels, is fit for `usage.rs` -/
def TreeUsageOk : Nat → Cmd → Prop
  | 0, _ => True
  | n+1, c => UsageOk c ∧ ∀ s ∈ c.subs, TreeUsageOk n s

theorem relevantWith_snd (m : Option ArgMap) (a : Id) (p : Pred × Id) (x : Id) (h : relevantWith m a p = some x) : x = p.2 := by
  unfold relevantWith at h
  split at h
  · cases h; rfl
  · split at h
    · split at h
      · cases h; rfl
      · cases h
    · cases h

/-- `get_required_usage_from` for any required set and include list of existing ids, with any matcher -/
theorem requiredUsageFrom_total (c : Cmd) (u : UInfo) (ok : UsageOk c) (required incls : List Id)
    (hreq : ∀ r ∈ required, Known c r) (hi : ∀ q ∈ incls, Known c q) (m : Option ArgMap) (inclLast : Bool) :
    (requiredUsageFrom c u required incls m inclLast).isSome = true := by
  have hall := reqs_ex c ok.refs _ (relevantWith_snd m) required incls hreq hi
  obtain ⟨⟨gs, ms⟩, hg⟩ := Option.isSome_iff_exists.mp
    (groupPass_isSome c u (fun members => members.any (presentIn m)) ok.groups _ [] [] hall)
  obtain ⟨⟨opts, pos⟩, ha⟩ := Option.isSome_iff_exists.mp
    (argPass_isSome c u ms true (skipFor m inclLast) _ [] [] hall)
  simp only [requiredUsageFrom, hg, ha, Option.isSome_some]

theorem requiredUsageFrom_isSome (c : Cmd) (u : UInfo) (ok : UsageOk c) (m : Option ArgMap) (inclLast : Bool) :
    (requiredUsageFrom c u (requiredGraph c) [] m inclLast).isSome = true :=
  requiredUsageFrom_total c u ok _ [] (requiredGraph_exists c ok.refs) (by intro q hq; cases hq) m inclLast

theorem subUsageName_isSome (c : Cmd) (u : UInfo) (ok : UsageOk c) (bin : Bytes) (sc : Cmd) :
    (subUsageName c u bin sc).isSome = true := by
  unfold subUsageName
  simp only [Option.isSome_map]
  have := requiredUsageFrom_isSome c u ok none true
  split
  · exact this
  · rfl

theorem pairSubs_fst_mem : ∀ (ss : List Cmd) (ts : List UTree) (p : Cmd × Option UTree), p ∈ pairSubs ss ts → p.1 ∈ ss := by
  intro ss
  induction ss with
  | nil => intro ts p hp; simp [pairSubs] at hp
  | cons s ss ih =>
    intro ts p hp
    cases ts with
    | nil =>
      simp only [pairSubs, List.mem_cons] at hp
      rcases hp with rfl | hp
      · exact List.mem_cons_self
      · exact List.mem_cons_of_mem _ (ih [] p hp)
    | cons t ts =>
      simp only [pairSubs, List.mem_cons] at hp
      rcases hp with rfl | hp
      · exact List.mem_cons_self
      · exact List.mem_cons_of_mem _ (ih ts p hp)

/-- **the usage line renders with `flatten_help` at any depth**: on a tree whose levels are all fit for `usage.rs` and
whose height the fuel covers, `write_usage_no_title` reaches no `unwrap` / `expect` / `debug_assert!` -/
theorem helpUsageTree_isSome : ∀ (fuel : Nat) (c : Cmd) (t : UTree) (bin : Bytes),
    c.height ≤ fuel → TreeUsageOk fuel c → (helpUsageTree fuel c t bin).isSome = true := by
  intro fuel
  induction fuel with
  | zero => intro c t bin h _; cases c; simp [Cmd.height] at h
  | succ fuel ih =>
    intro c t bin hh ⟨ok, hsubs⟩
    have hW := writeArgUsage_total c t.info ok _ [] (requiredGraph_exists c ok.refs) (by intro q hq; cases hq)
    cases ho : t.info.overrideUsage with
    | some o => rw [helpUsageTree_override fuel c t bin o ho]; rfl
    | none =>
      cases hf : (hasVisibleSubs c t.info && t.flatten) with
      | false => rw [helpUsageTree_plain fuel c t bin ho hf]; exact writeHelpUsage_total c t.info _ hW
      | true =>
        -- the head, then a fold over the visible subcommands whose step never fails
        unfold helpUsageTree
        simp only [ho, hf, ↓reduceIte, Option.isSome_map]
        apply foldl_option_isSome
        · simp only [apply_ite Option.isSome, Option.isSome_map, Option.isSome_some, hW, ite_self]
        · intro p hp ⟨sofar, first⟩
          have hmem : p.1 ∈ c.subs := pairSubs_fst_mem _ _ p (List.mem_filter.mp hp).1
          obtain ⟨un, hun⟩ := Option.isSome_iff_exists.mp (subUsageName_isSome c t.info ok bin p.1)
          simp only [hun, Option.isSome_map]
          split
          · rfl
          · exact ih _ _ _ (by have := C01.height_sub c p.1 hmem; omega) (hsubs p.1 hmem)

/-- `render_usage()` of a level of such a tree -/
theorem renderUsageTree_isSome (fuel : Nat) (c : Cmd) (t : UTree) (bin : Bytes) (hh : c.height ≤ fuel) (hok : TreeUsageOk fuel c) :
    (renderUsageTree fuel c t bin).isSome = true := by
  unfold renderUsageTree
  rw [Option.isSome_map]
  exact helpUsageTree_isSome fuel c t bin hh hok

/-! non-vacuity: a two-level tree (`p` with a required option and a visible subcommand `s` that has a positional)
meets the hypotheses with `flatten_help` on -/
def exSub : Cmd := Cmd.mk [115] [] none none [] [] {} [ { id := [105], index := some 1, action := some .set, numVals := some Range.single } ] [] []
def exTree : Cmd :=
  Cmd.mk [112] [] none none [] [] {}
    [ { id := [111], long := some [111, 117, 116], required := true, action := some .set, numVals := some Range.single } ] [] [exSub]

theorem exSub_ok : UsageOk exSub where
  groups := by intro g hg; cases hg
  refs := And.intro (by decide +kernel) (by intro g hg; cases hg)
  indexed := by decide +kernel

theorem exTree_ok : UsageOk exTree where
  groups := by intro g hg; cases hg
  refs := And.intro (by decide +kernel) (by intro g hg; cases hg)
  indexed := by decide +kernel

example : TreeUsageOk 2 exTree := by
  refine ⟨exTree_ok, ?_⟩
  intro s hs
  simp only [exTree, Cmd.subs, List.mem_singleton] at hs
  subst hs
  refine ⟨exSub_ok, ?_⟩
  intro s hs
  cases hs

/-- `Usage: p --out <o>` / `p --out <o> s [i]`: the level's own line, then one line per visible subcommand -/
example : renderUsageTree 2 exTree (.mk { usageName := [112] } true [.mk { usageName := [] } false []]) [112] = some
    ([85, 115, 97, 103, 101, 58, 32, 112, 32, 45, 45, 111, 117, 116, 32, 60, 111, 62] ++ (10 :: List.replicate 7 32) ++
     [112, 32, 45, 45, 111, 117, 116, 32, 60, 111, 62, 32, 115, 32, 91, 105, 93]) := by decide +kernel

end Clap.C12U

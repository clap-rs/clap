/-
C10 — Rejections are justified, correctly classified, and carry the CLI exit contract.
-/
import ClapModel
import ClapModel.Gen.ErrorKinds
import ClapProofs.C03
import ClapProofs.Lemmas.RequiredWalk
import ClapProofs.C04
import ClapProofs.C08
namespace Clap.C10
open Clap Parser

/-! #### stream and exit code, over the kinds re-extracted from the source on every run -/

/-- help and version are the only kinds on stdout; they are the only ones exiting with 0;
every other kind - whatever variants exist in `error/kind.rs` today - goes to stderr with 2 -/
theorem stream_exit_table : ∀ r ∈ Gen.errorKinds,
    (r.stderr = false ↔ (r.kind = "DisplayHelp" ∨ r.kind = "DisplayVersion")) ∧
    r.exitCode = (if r.stderr then 2 else 0) := by decide +kernel

/-- the two stdout kinds exist -/
theorem help_version_kinds_exist :
    (Gen.errorKinds.any fun r => r.kind == "DisplayHelp") = true ∧ (Gen.errorKinds.any fun r => r.kind == "DisplayVersion") = true := by
  decide +kernel

/-- the model's `use_stderr` is that table -/
theorem model_useStderr (e : EK) : e.useStderr = false ↔ e = .displayHelp ∨ e = .displayVersion := by
  cases e <;> simp [EK.useStderr]

/-! #### value-count verdict -/

/-- `verify_num_args` accepts exactly the counts inside the declared range, and
each rejection names the rule that is broken -/
theorem num_args_verdict (c : Cmd) (a : Arg) (n : Nat) (hi : c.settings.ignoreErrors = false) :
    (verifyNumArgs c a n = .ok () ↔
        (¬(0 < a.getNumArgs.min ∧ n = 0)) ∧ a.getNumArgs.min ≤ n ∧ (∀ mx, a.getNumArgs.max = some mx → n ≤ mx)) := by
  unfold verifyNumArgs
  rw [if_neg (by rw [hi]; exact Bool.false_ne_true)]
  rcases a.getNumArgs with ⟨mn, mx⟩
  simp only [Range.numValues, Range.isFixed, Range.maxLt, Bool.and_eq_true, decide_eq_true_eq, beq_iff_eq]
  -- every rejecting branch contradicts one conjunct of the right side; the accepting ones give all three
  split
  · next h0 => exact ⟨fun h => (nomatch h), fun h => absurd h0 h.1⟩
  · next h0 =>
    cases mx with
    | none =>
      simp only [reduceCtorEq, Bool.false_eq_true, ↓reduceIte]
      split
      · next h1 => exact ⟨fun h => (nomatch h), fun h => absurd h.2.1 (Nat.not_le_of_lt h1)⟩
      · next h1 => exact ⟨fun _ => ⟨h0, Nat.le_of_not_lt h1, fun _ h => (nomatch h)⟩, fun _ => rfl⟩
    | some e =>
      simp only [Option.some.injEq]
      by_cases hfix : e = mn
      · subst hfix
        simp only [↓reduceIte, bne_iff_ne, ne_eq]
        split
        · next h1 => exact ⟨fun h => (nomatch h), fun h => absurd (Nat.le_antisymm h.2.1 (h.2.2 e rfl)) h1⟩
        · next h1 =>
          have := Classical.not_not.1 h1
          exact ⟨fun _ => ⟨h0, Nat.le_of_eq this, fun _ h => h ▸ Nat.le_of_eq this.symm⟩, fun _ => rfl⟩
      · simp only [hfix, ↓reduceIte]
        split
        · next h1 => exact ⟨fun h => (nomatch h), fun h => absurd h.2.1 (Nat.not_le_of_lt h1)⟩
        · next h1 =>
          by_cases h2 : e < n
          · simp only [h2, decide_true, ↓reduceIte]
            exact ⟨fun h => (nomatch h), fun h => absurd (h.2.2 e rfl) (Nat.not_le_of_lt h2)⟩
          · simp only [h2, decide_false, Bool.false_eq_true, ↓reduceIte]
            exact ⟨fun _ => ⟨h0, Nat.le_of_not_lt h1, fun _ h => h ▸ Nat.le_of_not_lt h2⟩, fun _ => trivial⟩

/-- which kind a wrong count gets -/
theorem num_args_kinds (c : Cmd) (a : Arg) (n : Nat) (e : EK) (h : verifyNumArgs c a n = .error e) :
    e = .invalidValue ∨ e = .wrongNumberOfValues ∨ e = .tooFewValues ∨ e = .tooManyValues := by
  unfold verifyNumArgs at h
  by_cases hig : c.settings.ignoreErrors = true
  · rw [if_pos hig] at h
    cases h
  · rw [if_neg hig] at h
    dsimp only at h
    by_cases h0 : (decide (0 < a.getNumArgs.min) && n == 0) = true
    · rw [if_pos h0] at h
      cases h
      exact Or.inl rfl
    · rw [if_neg h0] at h
      cases hnv : a.getNumArgs.numValues with
      | some v =>
        rw [hnv] at h
        dsimp only at h
        by_cases h1 : (v != n) = true
        · rw [if_pos h1] at h
          cases h
          exact Or.inr (Or.inl rfl)
        · rw [if_neg h1] at h
          cases h
      | none =>
        rw [hnv] at h
        dsimp only at h
        by_cases h1 : n < a.getNumArgs.min
        · rw [if_pos h1] at h
          cases h
          exact Or.inr (Or.inr (Or.inl rfl))
        · rw [if_neg h1] at h
          by_cases h2 : a.getNumArgs.maxLt n = true
          · rw [if_pos h2] at h
            cases h
            exact Or.inr (Or.inr (Or.inr rfl))
          · rw [if_neg h2] at h
            cases h

/-! #### rejections by the validator are justified (converse of C03) -/

/-- `ArgumentConflict` from `validate_conflicts` means an exclusive arg is present with
others, or some explicitly present arg has a non-empty conflict list -/
theorem conflict_justified (c : Cmd) (m : ArgMap) (pot : List (Id × List Id))
    (h : Validator.validateConflicts c m pot = .error .argumentConflict) :
    Validator.validateExclusive c m = .error .argumentConflict ∨
    ∃ id ∈ (Validator.explicitIds m).filter (fun id => (c.find id).isSome), ∃ x xs, Validator.gatherConflicts c pot id = some (x :: xs) :=
  (Validator.validateConflicts_error h).2

theorem go_kinds (c : Cmd) (pot : List (Id × List Id)) : ∀ (ids : List Id) (e : EK),
    Validator.validateConflicts.go c pot ids = .error e → e = .argumentConflict ∨ ∃ s, e = .panic s :=
  fun _ _ h => Or.inl (Validator.go_error h).1

theorem validateConflicts_kinds (c : Cmd) (m : ArgMap) (pot : List (Id × List Id)) (e : EK)
    (h : Validator.validateConflicts c m pot = .error e) : e = .argumentConflict ∨ ∃ s, e = .panic s :=
  Or.inl (Validator.validateConflicts_error h).1

theorem requiredLoop_kinds (c : Cmd) (m : ArgMap) (pot : List (Id × List Id)) (ex : Bool) : ∀ (ids : List Id) (e : EK),
    Validator.requiredLoop c m pot ex ids = .error e → ∃ s, e = .panic s :=
  fun _ _ h => (Validator.requiredLoop_error h).1

theorem validateRequired_kinds (c : Cmd) (m : ArgMap) (pot : List (Id × List Id)) (e : EK)
    (h : Validator.validateRequired c m pot = .error e) : e = .missingRequiredArgument ∨ ∃ s, e = .panic s :=
  (Validator.validateRequired_error h).imp id fun h => (Validator.requiredLoop_error h).1

/-- the validator only ever reports these kinds -/
theorem validate_kinds (c : Cmd) (p : P) (e : EK) (h : Validator.validate c p = .error e) :
    e = .displayHelpOnMissing ∨ e = .missingSubcommand ∨ e = .argumentConflict ∨ e = .missingRequiredArgument ∨
    ∃ s, e = .panic s := by
  rcases Validator.validate_error h with rfl | rfl | h | h
  · exact Or.inl rfl
  · exact Or.inr (Or.inl rfl)
  · exact Or.inr (Or.inr (Or.inl (Validator.validateConflicts_error h).1))
  · exact Or.inr (Or.inr (Or.inr (validateRequired_kinds c _ _ e h)))

/-! #### suggestions -/

/-- `did_you_mean` only ever draws from the names it is given (for every similarity function) -/
def didYouMean (similar : Bytes → Bytes → Bool) (v : Bytes) (names : List Bytes) : List Bytes := names.filter (similar v)

theorem suggestions_exist (similar : Bytes → Bytes → Bool) (v : Bytes) (names : List Bytes) :
    ∀ s ∈ didYouMean similar v names, s ∈ names := by
  intro s hs
  exact (List.mem_filter.1 hs).1

end Clap.C10

/-
C03 — the transitive closure of `requires`: the work-list walk `unroll_arg_requires` (fuel-bounded in the model) runs
dry before its fuel does, and what it returns contains everything reachable from the starting arg through `requires`
edges; hence after a successful validation whatever an explicitly present arg requires *transitively* is present.
-/
import ClapProofs.C03
namespace Clap.C03
open Clap Parser Validator

/-- the `requires` targets of an arg that the filter lets through -/
def targets (relevant : Pred × Id → Option Id) (arg : Arg) : List Id := arg.requires.filterMap relevant

/-- `b` is reached from `x` through one or more `requires` edges -/
inductive Reach (c : Cmd) (relevant : Pred × Id → Option Id) : Id → Id → Prop
  | direct {x b : Id} {arg : Arg} : c.find x = some arg → b ∈ targets relevant arg → Reach c relevant x b
  | step {x y b : Id} {arg : Arg} : Reach c relevant x y → c.find y = some arg → b ∈ targets relevant arg → Reach c relevant x b

/-- what is still to be expanded: the `requires` entries of the args not yet processed -/
def potL : List Arg → List Id → Nat
  | [], _ => 0
  | x :: l, processed => (if processed.contains x.id then 0 else x.requires.length) + potL l processed

theorem contains_append_of (processed : List Id) (a x : Id) (h : processed.contains x = true) :
    (processed ++ [a]).contains x = true := by
  rw [List.contains_iff_mem] at h ⊢
  exact List.mem_append_left _ h

/-- processing one more id can only lower what an arg still contributes -/
theorem weight_mono (processed : List Id) (a y : Id) (n : Nat) :
    (if (processed ++ [a]).contains y then 0 else n) ≤ (if processed.contains y then 0 else n) := by
  by_cases h : processed.contains y = true
  · rw [if_pos h, if_pos (contains_append_of processed a y h)]
    exact Nat.le_refl _
  · rw [if_neg h]
    split
    · exact Nat.zero_le _
    · exact Nat.le_refl _

theorem potL_mono (a : Id) : ∀ (l : List Arg) (processed : List Id), potL l (processed ++ [a]) ≤ potL l processed
  | [], _ => Nat.le_refl _
  | x :: l, processed => Nat.add_le_add (weight_mono processed a x.id _) (potL_mono a l processed)

theorem potL_drop (a : Id) (arg : Arg) : ∀ (l : List Arg) (processed : List Id), arg ∈ l → arg.id = a →
    processed.contains a = false → potL l (processed ++ [a]) + arg.requires.length ≤ potL l processed
  | [], _, h, _, _ => nomatch h
  | x :: l, processed, h, hid, hnp => by
    simp only [potL]
    rcases List.mem_cons.1 h with rfl | h'
    · -- the arg itself: it contributed its `requires` before and nothing now
      have h2 : (processed ++ [a]).contains arg.id = true := by
        rw [hid, List.contains_iff_mem]
        exact List.mem_append_right _ List.mem_cons_self
      have := potL_mono a l processed
      rw [if_pos h2, if_neg (by rw [hid, hnp]; exact Bool.false_ne_true)]
      omega
    · have ih := potL_drop a arg l processed h' hid hnp
      have := weight_mono processed a x.id x.requires.length
      omega

theorem potL_nil : ∀ (l : List Arg), potL l [] = (l.map fun x => x.requires.length).sum
  | [] => rfl
  | x :: l => by simp [potL, potL_nil l]

/-- the inner fold of one expansion, in closed form: every target is appended to the result, those that `push` accepts
go on the work list (a stack, hence reversed) -/
theorem expandFold_eq {α} (push : α → Bool) : ∀ (rs : List α) (acc : List α × List α),
    rs.foldl (fun acc r => ((if push r then r :: acc.1 else acc.1), acc.2 ++ [r])) acc =
      ((rs.filter push).reverse ++ acc.1, acc.2 ++ rs)
  | [], _ => by simp
  | r :: rs, acc => by
    rw [List.foldl_cons, expandFold_eq push rs]
    cases h : push r <;> simp [h]

/-- a target goes on the work list when it is an arg with requirements of its own -/
def pushes (c : Cmd) (r : Id) : Bool := match c.find r with | some req => !req.requires.isEmpty | none => false

theorem pushes_of {c : Cmd} {r : Id} {req : Arg} (hf : c.find r = some req) (hne : req.requires ≠ []) : pushes c r = true := by
  simp only [pushes, hf]
  cases h : req.requires with
  | nil => exact absurd h hne
  | cons _ _ => rfl

/-- the invariant of the work list: what has been processed has all its targets recorded, and every target with
requirements of its own is processed or waiting -/
def Inv (c : Cmd) (relevant : Pred × Id → Option Id) (rvec processed args : List Id) : Prop :=
  ∀ y ∈ processed, ∀ arg, c.find y = some arg → ∀ r ∈ targets relevant arg,
    r ∈ args ∧ ∀ req, c.find r = some req → req.requires ≠ [] → r ∈ processed ∨ r ∈ rvec

/-- what the walk returns is closed: some set of processed ids contains the start and everything waiting, all their
targets are in the result, and targets with requirements of their own are processed too -/
def Closed (c : Cmd) (relevant : Pred × Id → Option Id) (procd result : List Id) : Prop :=
  ∀ y ∈ procd, ∀ arg, c.find y = some arg → ∀ r ∈ targets relevant arg,
    r ∈ result ∧ ∀ req, c.find r = some req → req.requires ≠ [] → r ∈ procd

/-- with nothing waiting the invariant says the result is closed -/
theorem Inv.closed {c : Cmd} {relevant : Pred × Id → Option Id} {processed args : List Id}
    (hinv : Inv c relevant [] processed args) : Closed c relevant processed args :=
  fun y hy arg hfa r hr =>
    ⟨(hinv y hy arg hfa r hr).1, fun req hq hne => ((hinv y hy arg hfa r hr).2 req hq hne).resolve_right (fun h => nomatch h)⟩

/-- one step of the walk keeps the invariant for what was processed before: `a` leaves the work list and is processed,
nothing else is lost -/
theorem Inv.step {c : Cmd} {relevant : Pred × Id → Option Id} {a : Id} {rvec processed args rvec' processed' args' : List Id}
    (hinv : Inv c relevant (a :: rvec) processed args) (hp : ∀ x ∈ processed, x ∈ processed') (ha : a ∈ processed')
    (hr : ∀ x ∈ rvec, x ∈ rvec') (hargs : ∀ x ∈ args, x ∈ args') :
    ∀ y ∈ processed, ∀ arg, c.find y = some arg → ∀ r ∈ targets relevant arg,
      r ∈ args' ∧ ∀ req, c.find r = some req → req.requires ≠ [] → r ∈ processed' ∨ r ∈ rvec' := by
  intro y hy arg hfa r hr'
  obtain ⟨g1, g2⟩ := hinv y hy arg hfa r hr'
  refine ⟨hargs r g1, fun req hq hne => ?_⟩
  rcases g2 req hq hne with g | g
  · exact Or.inl (hp r g)
  · rcases List.mem_cons.1 g with rfl | g'
    · exact Or.inl ha
    · exact Or.inr (hr r g')

/-- **the work list runs dry**: with fuel at least `|work list| + Σ requires of unprocessed args`, the walk ends with a
closed result that has processed everything that was waiting -/
theorem unroll_closed (c : Cmd) (relevant : Pred × Id → Option Id) : ∀ (fuel : Nat) (rvec processed args : List Id),
    rvec.length + potL c.args processed ≤ fuel → Inv c relevant rvec processed args →
    ∃ procd, Closed c relevant procd (unrollArgRequires c relevant fuel rvec processed args) ∧
      (∀ y ∈ processed, y ∈ procd) ∧ (∀ y ∈ rvec, y ∈ procd) := by
  intro fuel
  induction fuel with
  | zero =>
    intro rvec processed args hf hinv
    cases rvec with
    | nil => exact ⟨processed, by unfold unrollArgRequires; exact hinv.closed, fun y hy => hy, fun y hy => nomatch hy⟩
    | cons a rvec => exact absurd hf (by rw [List.length_cons]; omega)
  | succ fuel ih =>
    intro rvec processed args hf hinv
    cases rvec with
    | nil => exact ⟨processed, by unfold unrollArgRequires; exact hinv.closed, fun y hy => hy, fun y hy => nomatch hy⟩
    | cons a rvec =>
      rw [List.length_cons] at hf
      have hain : a ∈ processed ++ [a] := List.mem_append_right _ List.mem_cons_self
      unfold unrollArgRequires
      by_cases hp : processed.contains a = true
      · -- already processed: dropped from the work list
        simp only [hp, ↓reduceIte]
        have hpm : a ∈ processed := by simpa using hp
        obtain ⟨procd, hc, h1, h2⟩ := ih rvec processed args (by omega)
          (hinv.step (fun _ h => h) hpm (fun _ h => h) (fun _ h => h))
        exact ⟨procd, hc, h1, fun y hy => (List.mem_cons.1 hy).elim (fun e => e ▸ h1 _ hpm) (h2 y)⟩
      · have hp' : processed.contains a = false := by simpa using hp
        simp only [hp', Bool.false_eq_true, ↓reduceIte]
        cases hfa : c.find a with
        | none =>
          -- not an arg: processed, nothing to expand
          simp only
          obtain ⟨procd, hc, h1, h2⟩ := ih rvec (processed ++ [a]) args (by
              have := potL_mono a c.args processed
              omega) (by
            intro y hy arg hfy
            rcases List.mem_append.1 hy with hy' | hy'
            · exact hinv.step (fun _ => List.mem_append_left _) hain (fun _ h => h) (fun _ h => h) y hy' arg hfy
            · rw [List.mem_singleton.1 hy', hfa] at hfy
              cases hfy)
          exact ⟨procd, hc, fun y hy => h1 y (List.mem_append_left _ hy),
            fun y hy => (List.mem_cons.1 hy).elim (fun e => e ▸ h1 _ hain) (h2 y)⟩
        | some arg =>
          -- an arg: its targets are recorded, those with requirements of their own are pushed; the potential pays for them
          simp only
          obtain ⟨hm, hid⟩ := find_mem hfa
          generalize hout : List.foldl _ (rvec, args) (arg.requires.filterMap relevant) = out
          cases hout.symm.trans (expandFold_eq (pushes c) (arg.requires.filterMap relevant) (rvec, args))
          have hlen : ((arg.requires.filterMap relevant).filter (pushes c)).length ≤ arg.requires.length :=
            Nat.le_trans (List.length_filter_le _ _) (List.length_filterMap_le _ _)
          have e2 : ∀ x ∈ rvec, x ∈ ((arg.requires.filterMap relevant).filter (pushes c)).reverse ++ rvec :=
            fun x hx => List.mem_append_right _ hx
          obtain ⟨procd, hc, h1, h2⟩ := ih (((arg.requires.filterMap relevant).filter (pushes c)).reverse ++ rvec)
              (processed ++ [a]) (args ++ arg.requires.filterMap relevant) (by
              have := potL_drop a arg c.args processed hm hid hp'
              rw [List.length_append, List.length_reverse]
              omega) (by
            intro y hy arg' hfy
            rcases List.mem_append.1 hy with hy' | hy'
            · exact hinv.step (fun _ => List.mem_append_left _) hain e2 (fun _ => List.mem_append_left _) y hy' arg' hfy
            · rw [List.mem_singleton.1 hy', hfa] at hfy
              cases hfy
              exact fun r hr => ⟨List.mem_append_right _ hr, fun req hq hne => Or.inr (List.mem_append_left _
                (List.mem_reverse.2 (List.mem_filter.2 ⟨hr, pushes_of hq hne⟩)))⟩)
          exact ⟨procd, hc, fun y hy => h1 y (List.mem_append_left _ hy),
            fun y hy => (List.mem_cons.1 hy).elim (fun e => e ▸ h1 _ hain) fun hy' => h2 y (e2 y hy')⟩

/-- everything reachable from a processed id is in a closed result -/
theorem closed_reach {c : Cmd} {relevant : Pred × Id → Option Id} {procd result : List Id}
    (hc : Closed c relevant procd result) {x b : Id} (hx : x ∈ procd) (h : Reach c relevant x b) :
    b ∈ result ∧ ∀ req, c.find b = some req → req.requires ≠ [] → b ∈ procd := by
  induction h with
  | direct hf hb => exact hc _ hx _ hf _ hb
  | @step y b' arg _ hf hb ih =>
    have hne : arg.requires ≠ [] := by
      intro h0; unfold targets at hb; rw [h0] at hb; simp at hb
    exact hc _ (ih.2 arg hf hne) _ hf _ hb

/-- **completeness of the `requires` walk**: with the model's fuel, everything reachable from the starting arg through
`requires` edges is in the result - the fuel never cuts the walk short -/
theorem unroll_complete (c : Cmd) (relevant : Pred × Id → Option Id) (a b : Id) (h : Reach c relevant a b) :
    b ∈ unrollArgRequires c relevant (requiresFuel c) [a] [] [] := by
  have hpot := potL_nil c.args
  obtain ⟨procd, hc, _, h2⟩ := unroll_closed c relevant (requiresFuel c) [a] [] [] (by
      rw [hpot]; unfold requiresFuel; simp; omega) (by intro y hy; cases hy)
  exact (closed_reach hc (h2 a (by simp)) h).1

/-- the filter `gather_requires` applies along the whole walk: the condition of each edge is tested against the values
of the arg the walk started from -/
def relevantFor (ma : MatchedArg) : Pred × Id → Option Id := fun pr => if ma.checkExplicit pr.1 then some pr.2 else none

/-- whatever an explicitly present arg requires, directly or through further `requires`, is walked by
`validate_required` -/
theorem reach_in_graph (c : Cmd) (m : ArgMap) (a : Arg) (ma : MatchedArg) (b : Id)
    (hfa : c.find a.id = some a) (hma : m.get a.id = some ma) (hex : ma.checkExplicit .isPresent = true)
    (hreach : Reach c (relevantFor ma) a.id b) : b ∈ requiredIds c m := by
  refine (mem_foldl_insertNew _ _ _).2 (Or.inr ?_)
  unfold gatherRequires
  unfold ArgMap.get at hma
  cases hf : m.find? (fun p => p.1 == a.id) with
  | none => rw [hf] at hma; simp at hma
  | some e =>
    rw [hf] at hma
    have he2 : e.2 = ma := by simpa using hma
    have hem : e ∈ m := List.mem_of_find?_eq_some hf
    have he1 : e.1 = a.id := by simpa using List.find?_some hf
    rw [List.mem_flatMap]
    refine ⟨e, List.mem_filter.2 ⟨hem, by rw [he2]; exact hex⟩, ?_⟩
    simp only [he1, hfa, he2]
    exact unroll_complete c (relevantFor ma) a.id b hreach

/-- **transitive `requires` holds after a successful parse**: if `a` is explicitly present and `b` is reached from it
through any chain of `requires` / `requires_if` edges (conditions tested, as the code does, against `a`'s values),
then `b` is explicitly present - unless a documented exemption applies -/
theorem requires_transitively_present (c : Cmd) (p : P) (hv : validate c p = .ok ()) (a b : Arg) (ma : MatchedArg)
    (hfa : c.find a.id = some a) (hfb : c.find b.id = some b) (hma : p.args.get a.id = some ma)
    (hex : ma.checkExplicit .isPresent = true) (hreach : Reach c (relevantFor ma) a.id b.id) :
    p.args.checkExplicit b.id .isPresent = true ∨
    (c.settings.subcommandNegatesReqs = true ∧ p.sub ≠ []) ∨
    isExclusivePresent c p.args = true ∨
    ∃ pot, potential c p.args = some pot ∧ isMissingRequiredOk c pot b = some true :=
  walked_present hv hfb (reach_in_graph c p.args a ma b.id hfa hma hex hreach)

/-- a chain of three: `--a` requires `--b` requires `--c`; `c` is reached from `a` -/
example :
    let ac : Arg := { id := [99], long := some [99] }
    let ab : Arg := { id := [98], long := some [98], requires := [(.isPresent, [99])] }
    let aa : Arg := { id := [97], long := some [97], requires := [(.isPresent, [98])] }
    let c : Cmd := .mk [112] [] none none [] [] {} [aa, ab, ac] [] []
    let ma : MatchedArg := { source := some .cmdline, rawVals := [[[118]]] }
    Reach c (relevantFor ma) [97] [99] ∧ [99] ∈ unrollArgRequires c (relevantFor ma) (requiresFuel c) [[97]] [] [] := by
  intro ac ab aa c ma
  have h1 : Reach c (relevantFor ma) [97] [98] := .direct (arg := aa) (by decide +kernel) (by decide +kernel)
  have h : Reach c (relevantFor ma) [97] [99] := .step h1 (arg := ab) (by decide +kernel) (by decide +kernel)
  exact ⟨h, unroll_complete c _ _ _ h⟩

end Clap.C03

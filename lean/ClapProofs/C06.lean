/-
C06 — Command line beats environment beats default, and sources are reported honestly.
-/
import ClapModel
import ClapProofs.C07
namespace Clap.C06
open Clap Parser C07

/-! #### the reported source -/

/-- `set_source` keeps the maximum of `Default < Env < CommandLine` -/
theorem setSource_max (m : MatchedArg) (s : Source) :
    (m.setSource s).source = some (match m.source with | some e => e.max s | none => s) := rfl

theorem max_rank_ge_left (a b : Source) : a.rank ≤ (a.max b).rank := by
  unfold Source.max; split <;> omega
theorem max_rank_ge_right (a b : Source) : b.rank ≤ (a.max b).rank := by
  unfold Source.max; split <;> omega

/-- once an entry has been touched by the command line it stays `CommandLine` -/
theorem setSource_cmdline_sticky (m : MatchedArg) (s : Source) (h : m.source = some .cmdline) :
    (m.setSource s).source = some .cmdline := by
  simp only [MatchedArg.setSource, h]
  cases s <;> rfl

/-- a default can never raise the source of an entry that already has one -/
theorem setSource_default_noop (m : MatchedArg) (e : Source) (h : m.source = some e) :
    (m.setSource .default).source = some e := by
  simp only [MatchedArg.setSource, h]
  cases e <;> rfl

/-! #### phase order: env only for absent args, defaults only for still-absent args -/

/-- `add_env` skips an arg that is already in the matcher (it was given on the command line) -/
theorem addEnv_skips_present (c : Cmd) (a : Arg) (rest : List Arg) (p : P) (h : p.args.contains a.id = true) :
    addEnv c (a :: rest) p = addEnv c rest p := by
  simp [addEnv, h]

/-- `add_env` does nothing for an arg without an env value -/
theorem addEnv_skips_unset (c : Cmd) (a : Arg) (rest : List Arg) (p : P) (h : a.env = none ∨ a.env = some none) :
    addEnv c (a :: rest) p = addEnv c rest p := by
  rw [addEnv]
  split
  · rfl
  · rcases h with h | h <;> simp [h]

/-- `add_default_value` leaves an arg that is in the matcher alone - whether it got
there from the command line or from the environment -/
theorem addDefault_skips_present (c : Cmd) (a : Arg) (p : P) (h : p.args.contains a.id = true) :
    addDefaultValue c a p = (p, .ok ()) := by
  unfold addDefaultValue
  simp [h]

/-! #### the missing-value default applies precisely to an occurrence without values -/

/-- the values stored for an occurrence: the missing-value default iff the occurrence is empty -/
def occurrenceValues (a : Arg) (rawVals : List Bytes) : List Bytes :=
  if rawVals.isEmpty && !a.defaultMissing.isEmpty then a.defaultMissing else rawVals

theorem occurrenceValues_nonempty (a : Arg) (vals : List Bytes) (h : vals ≠ []) : occurrenceValues a vals = vals := by
  unfold occurrenceValues
  cases vals with
  | nil => exact absurd rfl h
  | cons v vs => simp

theorem occurrenceValues_empty (a : Arg) (h : a.defaultMissing ≠ []) : occurrenceValues a [] = a.defaultMissing := by
  unfold occurrenceValues
  cases hd : a.defaultMissing with
  | nil => exact absurd hd h
  | cons v vs => simp

/-- `react` stores `occurrenceValues` (delimiter-split): the only place where
`default_missing_vals` enters is the empty occurrence -/
theorem reactCore_uses_occurrenceValues (c : Cmd) (ident : Option Ident) (s : Source) (a : Arg) (vals : List Bytes)
    (t : Option Nat) (p : P) (hset : a.getAction = .append)
    (hv : (if s == .cmdline then verifyNumArgs c a vals.length else .ok ()) = .ok ()) :
    reactCore c ident s a vals t p =
      reactFinish c a s (bumpIdx s ident p)
        (splitDelim c a (occurrenceValues a vals) (if vals.isEmpty && !a.defaultMissing.isEmpty then none else t)) := by
  unfold reactCore occurrenceValues
  simp only [hv, hset]

/-! #### the source of a fresh entry is the origin that created it -/

/-- an arg that is not in the matcher and gets its value from origin `s` ends up
with `value_source = s` and exactly those values -/
theorem fresh_entry_source (c : Cmd) (a : Arg) (s : Source) (p : P) (vals : List Bytes)
    (hng : ∀ g ∈ c.groupsForArg a.id, (g == a.id) = false)
    (habs : cnt (if s == .cmdline then removeOverrides c a p.args else p.args) a.id = 0)
    (hpv : ∀ v ∈ vals, parseValue a v = .ok ()) :
    (reactFinish c a s p vals).2 = .ok .valuesDone ∧
    ∃ ma, (reactFinish c a s p vals).1.args.get a.id = some ma ∧ ma.rawVals = [vals] ∧ ma.source = some s :=
  let ⟨h1, ma, h2, h3, h4, _⟩ := reactFinish_fresh c a s p vals hng habs hpv
  ⟨h1, ma, h2, h3, h4⟩

end Clap.C06

/-
C02 — Every argv token is attributed exactly once.
The index discipline: every index handed out is fresh (greater than every index
in the matcher), so reported indices are unique and strictly increase in the
order in which values are stored; the pending buffer never exceeds the value
range; delimiter splitting is lossless.
-/
import ClapModel
import ClapProofs.C07
import ClapProofs.C14
namespace Clap.C02
open Clap Parser C07

def keys (m : ArgMap) : List Id := m.map Prod.fst
def allIdx (m : ArgMap) : List Nat := m.flatMap fun p => p.2.indices

/-- keys are unique, indices are unique across the whole matcher, and none exceeds `cur_idx` -/
structure Inv (p : P) : Prop where
  keysNodup : (keys p.args).Nodup
  idxNodup : (allIdx p.args).Nodup
  idxLe : ∀ i ∈ allIdx p.args, i ≤ p.curIdx

/-! #### removal -/

theorem keys_sublist {m m' : ArgMap} (h : m'.Sublist m) : (keys m').Sublist (keys m) := h.map _
theorem allIdx_sublist {m m' : ArgMap} (h : m'.Sublist m) : (allIdx m').Sublist (allIdx m) := by
  induction h with
  | slnil => exact List.Sublist.refl _
  | cons a _ ih => simp only [allIdx, List.flatMap_cons] at ih ⊢; exact ih.trans (List.sublist_append_right _ _)
  | cons_cons a _ ih => simp only [allIdx, List.flatMap_cons] at ih ⊢; exact List.Sublist.append (List.Sublist.refl _) ih

theorem foldl_remove_sublist (ids : List Id) : ∀ m : ArgMap, (ids.foldl (fun acc o => ArgMap.remove o acc) m).Sublist m :=
  foldl_sublist _ (fun m o => ArgMap.remove_sublist o m) ids

/-- dropping entries keeps the invariant -/
theorem inv_of_sublist {p : P} {m' : ArgMap} (h : Inv p) (hs : m'.Sublist p.args) : Inv { p with args := m' } :=
  ⟨(keys_sublist hs).nodup h.keysNodup, (allIdx_sublist hs).nodup h.idxNodup,
   fun i hi => h.idxLe i ((allIdx_sublist hs).subset hi)⟩

/-! #### updates that keep the indices -/

theorem allIdx_split (l r : ArgMap) (q : Id × MatchedArg) : allIdx (l ++ q :: r) = allIdx l ++ (q.2.indices ++ allIdx r) := by
  simp [allIdx]

/-- rewriting the entry of `g` to something with the same indices leaves `allIdx` alone -/
theorem allIdx_update_same (m : ArgMap) (g : Id) (f : MatchedArg → MatchedArg)
    (hf : ∀ ma, m.get g = some ma → (f ma).indices = ma.indices) (hk : (keys m).Nodup) :
    allIdx (m.update g f) = allIdx m := by
  cases hg : m.get g with
  | none => rw [ArgMap.update_of_not_mem m g f (ArgMap.get_eq_none_iff.1 hg)]
  | some mg =>
    obtain ⟨l, r, e, hl, hr⟩ := ArgMap.exists_split hg hk
    rw [e, ArgMap.update_split l r g mg f hl hr, allIdx_split, allIdx_split, hf mg hg]

/-- giving the entry of `g` one more index `k` adds exactly `k` to `allIdx` (up to order) -/
theorem allIdx_update_push (m : ArgMap) (g : Id) (mg ma' : MatchedArg) (k : Nat)
    (hget : m.get g = some mg) (hidx : ma'.indices = mg.indices ++ [k]) (hk : (keys m).Nodup) :
    (allIdx (m.update g fun _ => ma')).Perm (k :: allIdx m) := by
  obtain ⟨l, r, e, hl, hr⟩ := ArgMap.exists_split hget hk
  rw [e, ArgMap.update_split l r g mg _ hl hr, allIdx_split, allIdx_split, hidx, List.append_assoc]
  exact (List.Perm.append_left _ List.perm_middle).trans List.perm_middle

theorem keys_update_eq (m : ArgMap) (g : Id) (f : MatchedArg → MatchedArg) : keys (m.update g f) = keys m :=
  ArgMap.ids_update m g f

/-! #### `start_custom_arg` keeps the invariant and hands out no index -/

theorem matcherStart_inv (m : ArgMap) (id : Id) (fresh : MatchedArg) (s : Source) (hfresh : fresh.indices = [])
    (hk : (keys m).Nodup) :
    (keys (matcherStart m id fresh s)).Nodup ∧ allIdx (matcherStart m id fresh s) = allIdx m := by
  unfold matcherStart
  by_cases hc : m.contains id = true
  · simp only [hc, ↓reduceIte, keys_update_eq]
    exact ⟨hk, allIdx_update_same m id _ (fun ma _ => rfl) hk⟩
  · have hc' : m.contains id = false := by simpa using hc
    simp only [hc', Bool.false_eq_true, ↓reduceIte, keys_update_eq]
    refine ⟨ArgMap.ids_append_nodup m id fresh hc' hk, ?_⟩
    have := allIdx_update_same (m ++ [(id, fresh)]) id (fun ma => (ma.setSource s).newValGroup) (fun ma _ => rfl)
      (ArgMap.ids_append_nodup m id fresh hc' hk)
    rw [this]
    simp [allIdx, hfresh]

theorem groupFold_inv (a : Arg) (s : Source) : ∀ (gs : List Id) (acc : ArgMap × Bool), (keys acc.1).Nodup →
    (keys (gs.foldl (groupStep a s) acc).1).Nodup ∧ allIdx (gs.foldl (groupStep a s) acc).1 = allIdx acc.1 := by
  intro gs
  induction gs with
  | nil => intro acc hk; exact ⟨hk, rfl⟩
  | cons g gs ih =>
    intro acc hk
    simp only [List.foldl_cons]
    obtain ⟨s1, s2⟩ := matcherStart_inv acc.1 g { isGroup := true } s rfl hk
    have hstep : (keys (groupStep a s acc g).1).Nodup ∧ allIdx (groupStep a s acc g).1 = allIdx acc.1 := by
      unfold groupStep
      simp only
      split
      · next ma' hma' =>
        simp only [keys_update_eq]
        refine ⟨s1, ?_⟩
        rw [← s2]
        apply allIdx_update_same _ _ _ _ s1
        intro mg hmg
        -- `ma'` is `mg` with one more raw value
        simp only [hmg, Option.bind_some] at hma'
        unfold MatchedArg.appendVal at hma'
        split at hma'
        · simp at hma'
        · simp at hma'; rw [← hma']
      · exact ⟨s1, s2⟩
    obtain ⟨i1, i2⟩ := ih _ hstep.1
    exact ⟨i1, by rw [i2, hstep.2]⟩

theorem startArgs_inv (c : Cmd) (a : Arg) (s : Source) (m : ArgMap)
    (hk : (keys (if s == .cmdline then removeOverrides c a m else m)).Nodup) :
    (keys (startArgs c a s m)).Nodup ∧
      allIdx (startArgs c a s m) = allIdx (if s == .cmdline then removeOverrides c a m else m) := by
  have hm : (keys (startEntry c a s m)).Nodup ∧ allIdx (startEntry c a s m) = _ :=
    matcherStart_inv _ a.id { ignoreCase := a.ignoreCase } s rfl hk
  unfold startArgs
  split
  · obtain ⟨g1, g2⟩ := groupFold_inv a s (c.groupsForArg a.id) (startEntry c a s m, true) hm.1
    exact ⟨g1, g2.trans hm.2⟩
  · exact hm

theorem startCustomArg_inv (c : Cmd) (a : Arg) (s : Source) (p : P) (h : Inv p) :
    Inv (startCustomArg c a s p).1 ∧ (startCustomArg c a s p).1.curIdx = p.curIdx := by
  have h0 : Inv { p with args := (if s == .cmdline then removeOverrides c a p.args else p.args) } := by
    split
    · exact inv_of_sublist h (removeOverrides_sublist c a p.args)
    · exact h
  obtain ⟨m1, m2⟩ := startArgs_inv c a s p.args h0.keysNodup
  rw [startCustomArg_eq]
  exact ⟨⟨m1, by rw [m2]; exact h0.idxNodup, fun i hi => h0.idxLe i (by rw [← m2]; exact hi)⟩, rfl⟩

/-! #### `push_arg_values`: every stored value gets the next index -/

/-- **indices are fresh**: each value pushed receives `cur_idx + 1`, which is larger
than every index already in the matcher; the invariant is kept and `cur_idx`
advances by the number of values processed -/
theorem pushArgValues_inv (a : Arg) : ∀ (vals : List Bytes) (p : P), Inv p →
    Inv (pushArgValues a vals p).1 ∧ p.curIdx ≤ (pushArgValues a vals p).1.curIdx ∧
    (∀ i ∈ allIdx (pushArgValues a vals p).1.args, i ∈ allIdx p.args ∨ p.curIdx < i) := by
  intro vals
  induction vals with
  | nil => exact fun p h => ⟨h, Nat.le_refl _, fun i hi => Or.inl hi⟩
  | cons raw rest ih =>
    intro p h
    rw [pushArgValues]
    simp only
    have h1 : Inv { p with curIdx := p.curIdx + 1 } := ⟨h.keysNodup, h.idxNodup, fun i hi => Nat.le_succ_of_le (h.idxLe i hi)⟩
    split
    · exact ⟨h1, Nat.le_succ _, fun i hi => Or.inl hi⟩
    · split
      · exact ⟨h1, Nat.le_succ _, fun i hi => Or.inl hi⟩
      · next ma' hb =>
        obtain ⟨mg, hg, hap⟩ := Option.bind_eq_some_iff.1 hb
        have hperm := allIdx_update_push p.args a.id mg (ma'.pushIndex (p.curIdx + 1)) (p.curIdx + 1) hg
          (by rw [← MatchedArg.appendVal_indices hap]; rfl) h.keysNodup
        -- the new state satisfies the invariant: the index handed out is above every index in the store
        have hnew : p.curIdx + 1 ∉ allIdx p.args := fun hin => Nat.not_succ_le_self _ (h.idxLe _ hin)
        have h2 : Inv { p with curIdx := p.curIdx + 1, args := p.args.update a.id fun _ => ma'.pushIndex (p.curIdx + 1) } :=
          ⟨by rw [keys_update_eq]; exact h.keysNodup,
           hperm.nodup_iff.2 (List.nodup_cons.2 ⟨hnew, h.idxNodup⟩),
           fun i hi => by
             rcases List.mem_cons.1 (hperm.subset hi) with rfl | hin
             · exact Nat.le_refl _
             · exact Nat.le_succ_of_le (h.idxLe i hin)⟩
        obtain ⟨r1, r2, r3⟩ := ih _ h2
        refine ⟨r1, Nat.le_trans (Nat.le_succ _) r2, fun i hi => ?_⟩
        rcases r3 i hi with hin | hgt
        · rcases List.mem_cons.1 (hperm.subset hin) with rfl | hin'
          · exact .inr (Nat.lt_succ_self _)
          · exact .inl hin'
        · exact .inr (Nat.lt_trans (Nat.lt_succ_self _) hgt)

/-- the whole reaction to an occurrence keeps the index invariant -/
theorem reactFinish_inv (c : Cmd) (a : Arg) (s : Source) (p : P) (vals : List Bytes) (h : Inv p) :
    Inv (reactFinish c a s p vals).1 ∧ p.curIdx ≤ (reactFinish c a s p vals).1.curIdx := by
  have s1 := (startCustomArg_inv c a s p h).1
  rw [startCustomArg_eq] at s1
  rw [reactFinish_fst]
  exact ⟨(pushArgValues_inv a vals _ s1).1, (pushArgValues_inv a vals _ s1).2.1⟩

theorem reactCore_inv (c : Cmd) (ident : Option Ident) (s : Source) (a : Arg) (vals : List Bytes) (t : Option Nat)
    (p : P) (h : Inv p) : Inv (reactCore c ident s a vals t p).1 ∧ p.curIdx ≤ (reactCore c ident s a vals t p).1.curIdx := by
  have hb : ∀ p0, (p0 = p ∨ p0 = bumpIdx s ident p) → Inv p0 ∧ p.curIdx ≤ p0.curIdx := by
    rintro p0 (rfl | rfl)
    · exact ⟨h, Nat.le_refl _⟩
    · unfold bumpIdx
      split
      · exact ⟨⟨h.keysNodup, h.idxNodup, fun i hi => Nat.le_succ_of_le (h.idxLe i hi)⟩, Nat.le_succ _⟩
      · exact ⟨h, Nat.le_refl _⟩
  rcases reactCore_cases c ident s a vals t p with ⟨e, h', _⟩ | ⟨p0, vs, hp0, ⟨h', _⟩ | h' | h'⟩ <;> rw [h']
  · exact ⟨h, Nat.le_refl _⟩
  · exact ⟨inv_of_sublist (hb p0 hp0).1 (ArgMap.remove_sublist _ _), (hb p0 hp0).2⟩
  · have := reactFinish_inv c a s p0 vs (hb p0 hp0).1
    exact ⟨this.1, Nat.le_trans (hb p0 hp0).2 this.2⟩
  · have := reactFinish_inv c a s _ vs (inv_of_sublist (hb p0 hp0).1 (ArgMap.remove_sublist a.id _))
    exact ⟨this.1, Nat.le_trans (hb p0 hp0).2 this.2⟩

/-- the empty matcher satisfies the invariant -/
theorem inv_init : Inv {} := ⟨by simp [keys], by simp [allIdx], by simp [allIdx]⟩

/-! #### the pending buffer is bounded by the value range -/

/-- an option keeps asking for values only while fewer than `num_args.max` are pending -/
theorem pending_bounded (p : P) (a : Arg) (pd : Pending) (hp : p.pending = some pd) (hid : pd.id = a.id)
    (mx : Nat) (hmax : a.getNumArgs.max = some mx) : needsMoreVals p a = true ↔ pd.rawVals.length < mx := by
  unfold needsMoreVals Range.acceptsMore
  simp [hp, hid, hmax]

/-! #### delimiter splitting is lossless -/

/-- joining the pieces with the delimiter gives back the raw value -/
theorem delimiter_lossless (v d : Bytes) (hd : d ≠ []) :
    ∃ ps, OsStrExt.split v d = some ps ∧ C14.join d ps = v :=
  let ⟨ps, h1, h2, _⟩ := (C14.split_spec v d).2 hd
  ⟨ps, h1, h2⟩

/-- no delimiter declared: values are stored untouched -/
theorem no_delimiter_no_split (c : Cmd) (a : Arg) (vals : List Bytes) (t : Option Nat) (h : a.delim = none) :
    splitDelim c a vals t = vals := by
  simp [splitDelim, h]

end Clap.C02

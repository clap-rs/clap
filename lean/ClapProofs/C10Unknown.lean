/-
C10 — `UnknownArgument` is justified: the lookup functions answer "no matching argument" only for a
flag that names nothing at this level.
-/
import ClapProofs.C01Loop
namespace Clap.C10
open Clap Parser

/-- **an unknown long flag really is unknown**: `parse_long_arg` answers `NoMatchingArg` only when the name is not
valid UTF-8 or names no arg (exactly, by alias, or - with inference - as an unambiguous prefix) and no long flag
subcommand of this level -/
theorem unknown_long_justified (c : Cmd) (longArg : Bytes) (u : Bool) (longValue : Option Bytes) (st : ParseState)
    (pc : Nat) (vaf : Bool) (p : P) (hp : C01.PendingOk c p) (p' : P) (v : Bool)
    (h : parseLongArg c longArg u longValue st pc vaf p = (p', .ok (.noMatchingArg, v))) :
    u = false ∨ (findLong c longArg = none ∧ possibleLongFlagSubcommand c longArg = none) := by
  rcases (C01.parseLongArg_out c longArg u longValue st pc vaf p).of_eq_ok h with
    ⟨h1, _⟩ | ⟨_, _, h⟩ | ⟨n, h1, _⟩ | ⟨a, _, _, h1 | h1 | ⟨h1, _⟩ | ⟨h1, _⟩⟩
  · cases h1
  · exact h
  all_goals cases h1

/-- **an unknown short flag really is unknown**: the flag loop answers `NoMatchingArg` only after reaching a
character that is no short flag (or alias) and no short flag subcommand of this level, or bytes that are not UTF-8 -/
theorem unknown_short_justified (c : Cmd) : ∀ (fuel : Nat) (sf : ShortFlags) (consumed : Nat) (ret : ParseResult)
    (vaf : Bool) (p : P), C01.PendingOk c p → (ret = .noArg ∨ ret = .valuesDone) →
    ∀ p' v, shortLoop c sf fuel consumed ret vaf p = (p', .ok (.noMatchingArg, v)) →
      sf.invalid.isSome = true ∨ ∃ ch ∈ sf.chars, c.getShort ch = none ∧ c.findShortSubcmd ch = none := by
  intro fuel sf consumed ret vaf p _ hret p' v h
  rcases (C01.shortLoop_out c fuel sf consumed ret vaf p hret).of_eq_ok h with
    ⟨h1, _⟩ | ⟨h1 | h1, _⟩ | h1 | ⟨_, h⟩ | ⟨n, x, h1, _⟩ | ⟨a, x, _, _, h1, _⟩
  · rcases hret with h2 | h2 <;> rw [h2] at h1 <;> cases h1
  · cases h1
  · cases h1
  · cases h1
  · exact h
  · cases h1
  · cases h1

end Clap.C10

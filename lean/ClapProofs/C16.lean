/-
C16 — Generated completion scripts cover the whole command tree and work in the shell.

The theorems are about the model of the bash generator and of the bash
fragment its script uses (`ClapModel/BashGen.lean`); the model is compared on
every run with the real generator's script AND with the real bash executing it.
-/
import ClapModel
import ClapProofs.Lemmas.ListFold
namespace Clap.C16
open Clap BashGen

/-! #### the case table holds an entry for every node, under every one of its names -/

theorem mem_insertSorted {α} (lt : α → α → Bool) (x y : α) (l : List α) : y ∈ insertSorted lt x l ↔ y = x ∨ y ∈ l := by
  induction l with
  | nil => simp [insertSorted]
  | cons z zs ih => simp only [insertSorted]; split <;> simp [ih, or_left_comm]

/-- sorting the table loses and invents nothing -/
theorem mem_sortBy {α} (lt : α → α → Bool) (l : List α) (y : α) : y ∈ sortBy lt l ↔ y ∈ l := by
  unfold sortBy; rw [mem_foldl_insert _ (mem_insertSorted lt)]; simp

/-- a chain of nodes below `n`: each one a subcommand of the previous -/
inductive Chain : GNode → List GNode → Prop
  | nil (n : GNode) : Chain n []
  | cons (n c : GNode) (rest : List GNode) : c ∈ n.subs → Chain c rest → Chain n (c :: rest)

/-- the function name the generator gives the node at the end of a chain -/
def fnOf (parentFn : Bytes) : List GNode → Bytes
  | [] => parentFn
  | c :: rest => fnOf (parentFn ++ uu ++ mangle c.name) rest

theorem addCommands_eq (pf : Bytes) (l : List GNode) : addCommands pf l = l.flatMap (addCommand pf) := by
  induction l <;> simp [addCommands, *]

/-- the table below a list of siblings: each sibling's own names, and the table below it under its function name -/
theorem mem_addCommands {pf : Bytes} {l : List GNode} {e : Bytes × Bytes × Bytes} : e ∈ addCommands pf l ↔
    ∃ n ∈ l, e ∈ n.names.map (fun w => (pf, w, pf ++ uu ++ mangle n.name)) ∨ e ∈ addCommands (pf ++ uu ++ mangle n.name) n.subs := by
  rw [addCommands_eq, List.mem_flatMap]
  refine exists_congr fun n => and_congr_right fun _ => ?_
  cases n; simp [addCommand, GNode.names, GNode.name, GNode.aliases, GNode.subs, or_assoc]

/-- **the walk table is complete**: for every chain of subcommands below the root (any depth) and every
name or visible alias of its last node, the table sends (function of the parent, that word) to the
function of the node -/
theorem table_complete (pf : Bytes) (n : GNode) (pre : List GNode) (c : GNode) (hch : Chain n (pre ++ [c]))
    (w : Bytes) (hw : w ∈ c.names) :
    (fnOf pf pre, w, fnOf pf (pre ++ [c])) ∈ addCommands pf n.subs := by
  induction pre generalizing n pf with
  | nil =>
    cases hch with
    | cons _ _ _ hmem _ => exact mem_addCommands.2 ⟨c, hmem, .inl (List.mem_map.2 ⟨w, hw, rfl⟩)⟩
  | cons p ps ih =>
    cases hch with
    | cons _ _ _ hmem hrest => exact mem_addCommands.2 ⟨p, hmem, .inr (ih _ p hrest)⟩

/-! #### the walk reaches the addressed level when the mangled names are unambiguous -/

/-- no two table entries with the same `(function, word)` key lead to different functions -/
def Unambiguous (table : List (Bytes × Bytes × Bytes)) : Prop :=
  ∀ e1 ∈ table, ∀ e2 ∈ table, e1.1 = e2.1 → e1.2.1 = e2.2.1 → e1.2.2 = e2.2.2

theorem lookup_eq (table : List (Bytes × Bytes × Bytes)) (hu : Unambiguous table) (f w g : Bytes)
    (h : (f, w, g) ∈ table) : (table.find? fun t => t.1 == f && t.2.1 == w) = some (f, w, g) := by
  refine find?_of_unique _ _ _ h (by simp) fun x hx hk => ?_
  simp only [Bool.and_eq_true, beq_iff_eq] at hk
  exact Prod.ext hk.1 (Prod.ext hk.2 (hu x hx _ h hk.1 hk.2))

/-- one turn of the loop once `cmd` is set: the first matching label wins, no match leaves `cmd` as it is -/
theorem walk_cons (root : GNode) (table : List (Bytes × Bytes × Bytes)) (cmd0 cmd w : Bytes) (ws : List Bytes) (h : cmd ≠ []) :
    walk root table cmd0 cmd (w :: ws) =
      walk root table cmd0 (((table.find? fun t => t.1 == cmd && t.2.1 == w).map (·.2.2)).getD cmd) ws := by
  cases cmd with
  | nil => exact absurd rfl h
  | cons b r => rw [walk]; cases table.find? _ <;> rfl

theorem walk_append (root : GNode) (table : List (Bytes × Bytes × Bytes)) (cmd0 cmd : Bytes) (xs ys : List Bytes) :
    walk root table cmd0 cmd (xs ++ ys) = walk root table cmd0 (walk root table cmd0 cmd xs) ys := by
  induction xs generalizing cmd with
  | nil => rfl
  | cons x r ih => simp only [List.cons_append, walk]; exact ih _

theorem fnOf_ne_nil (b : Bytes) (l : List GNode) (h : b ≠ []) : fnOf b l ≠ [] := by
  induction l generalizing b with
  | nil => exact h
  | cons x xs ih => exact ih _ (by simp [uu])

/-- the words of a chain: one name (or visible alias) per node -/
def Spells : List GNode → List Bytes → Prop
  | [], [] => True
  | c :: cs, w :: ws => w ∈ c.names ∧ Spells cs ws
  | _, _ => False

theorem walk_chain (root : GNode) (cmd0 : Bytes) (n : GNode) (pf : Bytes) (hpf : pf ≠ [])
    (table : List (Bytes × Bytes × Bytes)) (hu : Unambiguous table)
    (hsub : ∀ e, e ∈ addCommands pf n.subs → e ∈ table)
    (chain : List GNode) (hch : Chain n chain) (ws : List Bytes) (hsp : Spells chain ws) :
    walk root table cmd0 pf ws = fnOf pf chain := by
  induction chain generalizing n pf ws with
  | nil =>
    cases ws with
    | nil => rfl
    | cons _ _ => exact hsp.elim
  | cons c cs ih =>
    cases ws with
    | nil => exact hsp.elim
    | cons w ws =>
      cases hch with
      | cons _ _ _ hmem hrest =>
        -- the entry for `w` under `pf` is in the table, so the lookup returns it; below `c` the table holds `c`'s subtree
        rw [walk_cons _ _ _ _ _ _ hpf,
          lookup_eq table hu pf w _ (hsub _ (mem_addCommands.2 ⟨c, hmem, .inl (List.mem_map.2 ⟨w, hsp.1, rfl⟩)⟩))]
        exact ih c _ (by simp [uu]) (fun e he => hsub e (mem_addCommands.2 ⟨c, hmem, .inr he⟩)) hrest ws hsp.2

theorem mangle_ne_nil (b : Bytes) (h : b ≠ []) : mangle b ≠ [] := by
  cases b with
  | nil => exact absurd rfl h
  | cons x r => simp only [mangle, replaceByte, List.flatMap_cons]; split <;> simp [uu]

/-- **dispatch follows the words**: if no two `(function, word)` labels of the script's case table
collide, then after `COMP_WORDS = [prog, w1 … wk]`, where the `wi` spell (by name or visible alias) a
chain of subcommands of any depth, `cmd` holds exactly the function name of the node addressed -/
theorem walk_reaches (root : GNode) (hroot : root.name ≠ []) (hu : Unambiguous (caseTable root))
    (chain : List GNode) (hch : Chain root chain) (ws : List Bytes) (hsp : Spells chain ws) (prog : Bytes) :
    walk root (caseTable root) prog [] (prog :: ws) = fnOf (mangle root.name) chain := by
  simp only [walk, List.isEmpty_nil, Bool.true_and, beq_self_eq_true, ↓reduceIte]
  exact walk_chain root prog root (mangle root.name) (mangle_ne_nil _ hroot) (caseTable root) hu
    (fun e he => (mem_sortBy _ _ e).2 he) chain hch ws hsp

/-! #### the arm the dispatch lands in lists the addressed level -/

/-- `join("__")` -/
def joinUu : List Bytes → Bytes
  | [] => []
  | [n] => n
  | n :: m :: r => n ++ uu ++ joinUu (m :: r)

/-- `join(" ")` (how `Command::_build_bin_names` forms bin names) -/
def joinSp : List Bytes → Bytes
  | [] => []
  | [n] => n
  | n :: m :: r => n ++ [32] ++ joinSp (m :: r)

theorem splitUu_cons_ne (cur : Bytes) (b : UInt8) (r : Bytes) (hb : b ≠ 95) : splitUu cur (b :: r) = splitUu (cur ++ [b]) r := by
  conv => lhs; unfold splitUu
  split
  · next h => simp at h
  · next h => simp at h; exact absurd h.1 hb
  · next h => simp at h; obtain ⟨rfl, rfl⟩ := h; rfl

theorem splitUu_clean (n : Bytes) (hn : 95 ∉ n) (cur rest : Bytes) : splitUu cur (n ++ rest) = splitUu (cur ++ n) rest := by
  induction n generalizing cur with
  | nil => simp
  | cons b r ih =>
    have hb : b ≠ 95 := fun e => hn (e ▸ List.mem_cons_self)
    have hr : 95 ∉ r := fun hm => hn (List.mem_cons_of_mem _ hm)
    simp only [List.cons_append]
    rw [splitUu_cons_ne cur b _ hb, ih hr]; simp

theorem splitUu_sep (cur rest : Bytes) : splitUu cur (uu ++ rest) = cur :: splitUu [] rest := by
  simp [uu, splitUu]

/-- **`split("__")` undoes `join("__")`** when no segment contains an underscore -/
theorem splitUu_joinUu (names : List Bytes) (hne : names ≠ []) (hc : ∀ n ∈ names, 95 ∉ n) :
    splitUu [] (joinUu names) = names := by
  induction names with
  | nil => exact absurd rfl hne
  | cons n r ih =>
    cases r with
    | nil =>
      simp only [joinUu]
      have := splitUu_clean n (hc n List.mem_cons_self) [] []
      simp only [List.append_nil, List.nil_append] at this
      rw [this]; simp [splitUu]
    | cons m r' =>
      simp only [joinUu]
      rw [List.append_assoc, splitUu_clean n (hc n List.mem_cons_self), splitUu_sep]
      simp only [List.nil_append]
      rw [ih (by simp) (fun x hx => hc x (List.mem_cons_of_mem _ hx))]

theorem replaceByte_append (c : UInt8) (rep a b : Bytes) : replaceByte c rep (a ++ b) = replaceByte c rep a ++ replaceByte c rep b := by
  simp [replaceByte]

theorem replaceByte_clean (c : UInt8) (rep n : Bytes) (hn : c ∉ n) : replaceByte c rep n = n := by
  induction n with
  | nil => rfl
  | cons b r ih =>
    rw [List.mem_cons, not_or] at hn
    rw [replaceByte, List.flatMap_cons, if_neg (by simpa using Ne.symm hn.1), ← replaceByte, ih hn.2]
    rfl

/-- the bin name with spaces turned into `__` is the `__`-join of the names -/
theorem spaceToUu_joinSp (names : List Bytes) (hc : ∀ n ∈ names, 32 ∉ n) : spaceToUu (joinSp names) = joinUu names := by
  induction names with
  | nil => rfl
  | cons n r ih =>
    cases r with
    | nil => simp only [joinSp, joinUu, spaceToUu]; exact replaceByte_clean _ _ _ (hc n List.mem_cons_self)
    | cons m r' =>
      simp only [joinSp, joinUu, spaceToUu, replaceByte_append]
      rw [replaceByte_clean _ _ _ (hc n List.mem_cons_self)]
      have := ih (fun x hx => hc x (List.mem_cons_of_mem _ hx))
      simp only [spaceToUu] at this
      rw [this]
      simp [replaceByte, uu]

/-- along the chain every node is the FIRST child of its parent that answers to its name -/
def FoundByName : GNode → List GNode → Prop
  | _, [] => True
  | n, c :: rest => (n.subs.find? fun x => x.names.contains c.name) = some c ∧ FoundByName c rest

/-- `find_subcommand_with_path` follows the chain's names to its last node -/
theorem findPath_chain (n : GNode) (chain : List GNode) (h : FoundByName n chain) :
    findPath n (chain.map GNode.name) = some (chain.getLastD n) := by
  induction chain generalizing n with
  | nil => rfl
  | cons c rest ih =>
    simp only [FoundByName] at h
    simp only [List.map_cons, findPath, h.1]
    rw [ih c h.2]
    cases rest <;> rfl

/-- the `case "${cmd}"` arm the generator writes for one bin path; `none` = its path lookup panics -/
def detailFor (root : GNode) (sc : Bytes) : Option Detail :=
  (findPath root ((splitUu [] sc).drop 1)).map fun n =>
    { label := mangle sc, level := (splitUu [] sc).length, words := levelWords n, valueOpts := n.valueOpts }

/-- **the arm written for a chain of subcommands lists exactly that level**: its label is the mangled
`__`-join of the names, its level the depth, its words the options and subcommands of the node - provided
no name on the path contains `_` or a space and each node is found under its own name -/
theorem arm_for_chain (root : GNode) (chain : List GNode) (hne : chain ≠ [])
    (hclean : ∀ n ∈ root.name :: chain.map GNode.name, 95 ∉ n ∧ 32 ∉ n) (hf : FoundByName root chain) :
    detailFor root (spaceToUu (joinSp (root.name :: chain.map GNode.name))) =
      some { label := mangle (joinUu (root.name :: chain.map GNode.name)), level := chain.length + 1,
             words := levelWords (chain.getLastD root), valueOpts := (chain.getLastD root).valueOpts } := by
  unfold detailFor
  rw [spaceToUu_joinSp _ (fun n hn => (hclean n hn).2), splitUu_joinUu _ (by simp) (fun n hn => (hclean n hn).1)]
  simp only [List.drop_succ_cons, List.drop_zero, List.length_cons, List.length_map]
  rw [findPath_chain root chain hf]
  rfl

/-! #### the generated function offers exactly the addressed level -/

theorem mem_dedupAdj (l : List Bytes) (x : Bytes) : x ∈ dedupAdj l ↔ x ∈ l := by
  induction l with
  | nil => simp [dedupAdj]
  | cons a r ih =>
    cases r with
    | nil => simp [dedupAdj]
    | cons b r' =>
      simp only [dedupAdj]
      split
      · next hab =>
        have : a = b := by simpa using hab
        subst this
        rw [ih]; simp
      · simp only [List.mem_cons, ih]

/-- the bin name `_build_bin_names` gives the last node of a chain: parent's bin name, a space, the name -/
def binOf (b : Bytes) : List GNode → Bytes
  | [] => b
  | c :: rest => binOf (b ++ [32] ++ c.name) rest

/-- utils `all_subcommands` below a node: each child's names with its bin name, and what is below the child -/
theorem mem_allSubcommands {bin : Bytes} {n : GNode} {e : Bytes × Bytes} : e ∈ allSubcommands bin n ↔
    ∃ c ∈ n.subs, (e.1 ∈ c.names ∧ e.2 = bin ++ [32] ++ c.name) ∨ e ∈ allSubcommands (bin ++ [32] ++ c.name) c := by
  have h1 : ∀ l, levelEntries bin l = l.flatMap fun c => c.names.map fun w => (w, bin ++ [32] ++ c.name) := by
    intro l; induction l <;> simp [levelEntries, GNode.names, *]
  have h2 : ∀ l, allSubcommandsList bin l = l.flatMap fun c => allSubcommands (bin ++ [32] ++ c.name) c := by
    intro l; induction l <;> simp [allSubcommandsList, *]
  cases n with
  | mk nm al o v subs =>
    rw [allSubcommands, h1, h2]
    simp only [List.mem_append, List.mem_flatMap, List.mem_map, GNode.subs, ← exists_or, ← and_or_left]
    refine exists_congr fun c => and_congr_right fun _ => or_congr_left ⟨?_, fun ⟨h, h'⟩ => ⟨_, h, Prod.ext rfl h'.symm⟩⟩
    rintro ⟨w, hw, rfl⟩; exact ⟨hw, rfl⟩

/-- utils `all_subcommands` lists the bin name of every chain of subcommands -/
theorem allSubcommands_complete (bin : Bytes) (n : GNode) (pre : List GNode) (c : GNode) (hch : Chain n (pre ++ [c])) :
    (c.name, binOf bin (pre ++ [c])) ∈ allSubcommands bin n := by
  induction pre generalizing n bin with
  | nil =>
    cases hch with
    | cons _ _ _ hmem _ => exact mem_allSubcommands.2 ⟨c, hmem, .inl ⟨List.mem_cons_self, rfl⟩⟩
  | cons p ps ih =>
    cases hch with
    | cons _ _ _ hmem hrest => exact mem_allSubcommands.2 ⟨p, hmem, .inr (ih _ p hrest)⟩

theorem binOf_joinSp (b : Bytes) (chain : List GNode) : binOf b chain = joinSp (b :: chain.map GNode.name) := by
  induction chain generalizing b with
  | nil => rfl
  | cons c rest ih =>
    simp only [binOf, List.map_cons]
    rw [ih]
    cases rest with
    | nil => simp [joinSp]
    | cons d r => simp [joinSp, List.append_assoc]

theorem mangle_append (a b : Bytes) : mangle (a ++ b) = mangle a ++ mangle b := replaceByte_append _ _ _ _

theorem mangle_uu : mangle uu = uu := by decide

/-- the arm label written for a chain is the function name the walk computes for it -/
theorem label_eq_fnOf (b : Bytes) (chain : List GNode) :
    mangle (joinUu (b :: chain.map GNode.name)) = fnOf (mangle b) chain := by
  induction chain generalizing b with
  | nil => rfl
  | cons c rest ih =>
    simp only [List.map_cons, fnOf]
    have := ih (b ++ uu ++ c.name)
    rw [mangle_append, mangle_append, mangle_uu] at this
    rw [← this]
    cases rest with
    | nil => simp [joinUu, mangle_append, mangle_uu]
    | cons d r => simp [joinUu, mangle_append, mangle_uu, List.append_assoc]

/-- no two arms of the `case "${cmd}"` dispatch carry the same label -/
def LabelsDistinct (root : GNode) (ds : List Detail) : Prop :=
  ∀ d1 ∈ ds, ∀ d2 ∈ ds, d1.label = d2.label → d1 = d2

theorem Spells.length_eq : ∀ (l : List GNode) (w : List Bytes), Spells l w → l.length = w.length
  | [], [], _ => rfl
  | [], _ :: _, h => h.elim
  | _ :: _, [], h => h.elim
  | _ :: l, _ :: w, h => congrArg (· + 1) (Spells.length_eq l w h.2)

/-- **the arm of every chain is among the details**, under the function name the walk computes for the chain -/
theorem arm_in_details (root : GNode) (ds : List Detail) (hds : details root = some ds)
    (chain : List GNode) (hne : chain ≠ []) (hch : Chain root chain)
    (hclean : ∀ n ∈ root.name :: chain.map GNode.name, 95 ∉ n ∧ 32 ∉ n) (hf : FoundByName root chain) :
    ({ label := fnOf (mangle root.name) chain, level := chain.length + 1,
       words := levelWords (chain.getLastD root), valueOpts := (chain.getLastD root).valueOpts } : Detail) ∈ ds := by
  obtain ⟨pre, c, rfl⟩ : ∃ pre c, chain = pre ++ [c] := ⟨chain.dropLast, chain.getLast hne, (List.dropLast_concat_getLast hne).symm⟩
  have hsc : spaceToUu (binOf root.name (pre ++ [c])) ∈
      dedupAdj (sortBy bytesLt ((allSubcommands root.name root).map fun x => spaceToUu x.2)) := by
    rw [mem_dedupAdj, mem_sortBy]
    exact List.mem_map.2 ⟨_, allSubcommands_complete root.name root pre c hch, rfl⟩
  obtain ⟨d, hd, hfd⟩ := mapM_mem _ _ ds hds _ hsc
  have harm := arm_for_chain root (pre ++ [c]) hne hclean hf
  rw [← binOf_joinSp, detailFor, hfd, label_eq_fnOf] at harm
  exact Option.some.inj harm ▸ hd

/-- **the script offers exactly the options and subcommands of the level the words address**:
for a tree whose generator run does not panic, whose walk labels and arm labels are unambiguous, and a
chain of subcommands (any depth) spelled by names or visible aliases whose names contain no `_` or space:
with the cursor on the next word, not itself a complete child name, `COMPREPLY` is the level's word list
filtered by the prefix. -/
theorem bash_offers_level (root : GNode) (hroot : root.name ≠ []) (hu : Unambiguous (caseTable root))
    (ds : List Detail) (hds : details root = some ds) (hld : LabelsDistinct root ds)
    (chain : List GNode) (hne : chain ≠ []) (hch : Chain root chain) (ws : List Bytes) (hsp : Spells chain ws)
    (hclean : ∀ n ∈ root.name :: chain.map GNode.name, 95 ∉ n ∧ 32 ∉ n) (hf : FoundByName root chain)
    (hrootlab : ∀ d ∈ ds, d.label ≠ mangle root.name)
    (cur prog : Bytes)
    (hcur : ((caseTable root).find? fun t => t.1 == fnOf (mangle root.name) chain && t.2.1 == cur) = none) :
    complete root (prog :: ws ++ [cur]) (ws.length + 1) =
      some (.words ((levelWords (chain.getLastD root)).filter (startsWith cur))) := by
  -- the walk stops at the chain's function name: `cur` matches no label there
  have hw : walk root (caseTable root) prog [] (prog :: ws ++ [cur]) = fnOf (mangle root.name) chain := by
    rw [walk_append, walk_reaches root hroot hu chain hch ws hsp prog,
      walk_cons _ _ _ _ _ _ (fnOf_ne_nil _ _ (mangle_ne_nil _ hroot)), hcur]; rfl
  -- the dispatch finds the chain's arm: it is there, and no other arm has its label
  have hd := arm_in_details root ds hds chain hne hch hclean hf
  have hfind := find?_of_unique (fun d' : Detail => d'.label == fnOf (mangle root.name) chain)
    ({ label := mangle root.name, level := 1, words := levelWords root, valueOpts := root.valueOpts } :: ds) _
    (List.mem_cons_of_mem _ hd) (by simp) (by
      intro x hx hk
      have hk : x.label = fnOf (mangle root.name) chain := by simpa using hk
      rcases List.mem_cons.1 hx with rfl | hx
      · exact absurd hk.symm (hrootlab _ hd)
      · exact hld x hx _ hd hk)
  have hcurget : (prog :: ws ++ [cur]).getD (ws.length + 1) [] = cur := by simp [List.getD]
  have hhd : (prog :: ws ++ [cur]).headD [] = prog := rfl
  simp only [complete, hds, hhd, hw, hfind, hcurget, Spells.length_eq chain ws hsp, beq_self_eq_true, Bool.or_true, ↓reduceIte]

/-- non-vacuity of `bash_offers_level`: a two-level tree (hyphenated name, alias, options at every level)
meets every hypothesis, and the conclusion is what evaluating the model gives -/
def sample2 : GNode :=
  .mk [112] [] [[45, 45, 114]] []
    [.mk [115, 45, 99] [[97, 108]] [[45, 45, 120]] [] [.mk [108] [] [[45, 45, 121], [45, 122]] [] []], .mk [116] [] [] [] []]
example : Unambiguous (caseTable sample2) := by
  intro e1 h1 e2 h2; revert e2 h2; revert e1 h1; decide +kernel
example : ∃ ds, details sample2 = some ds ∧ LabelsDistinct sample2 ds ∧ (∀ d ∈ ds, d.label ≠ mangle sample2.name) := by
  refine ⟨_, rfl, ?_, ?_⟩
  · intro d1 h1 d2 h2; revert d2 h2; revert d1 h1; decide +kernel
  · decide +kernel
example : complete sample2 [[112], [97, 108], [108], [45, 45]] 3 = some (.words [[45, 45, 121]]) := by decide +kernel

/-! #### the generator itself never panics on a well-named tree -/

/-- every entry of utils `all_subcommands` is the bin name of a chain of subcommands -/
theorem allSubcommands_sound : ∀ (k : Nat) (n : GNode), sizeOf n ≤ k → ∀ (bin : Bytes) (e : Bytes × Bytes),
    e ∈ allSubcommands bin n → ∃ pre c, Chain n (pre ++ [c]) ∧ e.2 = binOf bin (pre ++ [c]) := by
  intro k
  induction k with
  | zero => intro n hn; cases n; simp at hn
  | succ k ih =>
    intro n hn bin e he
    obtain ⟨c, hc, ⟨_, h2⟩ | h1⟩ := mem_allSubcommands.1 he
    · exact ⟨[], c, .cons _ c [] hc (.nil c), by simp [binOf, h2]⟩
    · have hsz : sizeOf c ≤ k := by
        cases n; have := List.sizeOf_lt_of_mem hc; simp [GNode.subs] at hn this; omega
      obtain ⟨pre, c', hch, hb⟩ := ih c hsz _ e h1
      exact ⟨c :: pre, c', .cons _ c (pre ++ [c']) hc hch, by simp [binOf, hb]⟩

/-- **writing the script never panics on a well-named tree**: if along every chain of subcommands the
names contain no `_` or space and every node is the first child answering to its name (no name or alias
is shared by two siblings), every path lookup of `subcommand_details` succeeds -/
theorem details_total (root : GNode)
    (hwf : ∀ chain, chain ≠ [] → Chain root chain →
      (∀ n ∈ root.name :: chain.map GNode.name, 95 ∉ n ∧ 32 ∉ n) ∧ FoundByName root chain) :
    (details root).isSome = true := by
  unfold details
  apply mapM_isSome
  intro sc hsc
  rw [mem_dedupAdj, mem_sortBy] at hsc
  obtain ⟨e, he, rfl⟩ := List.mem_map.1 hsc
  obtain ⟨pre, c, hch, hb⟩ := allSubcommands_sound (sizeOf root) root (Nat.le_refl _) root.name e he
  obtain ⟨hclean, hf⟩ := hwf (pre ++ [c]) (by simp) hch
  have := arm_for_chain root (pre ++ [c]) (by simp) hclean hf
  rw [← binOf_joinSp, ← hb] at this
  unfold detailFor at this
  rw [this]; rfl

/-- the hypothesis of `details_total` is met by a two-level tree -/
example : let t : GNode := .mk [112] [] [] [] [.mk [115] [[97]] [] [] [.mk [108] [] [] [] []]]
    ∀ chain, chain ≠ [] → Chain t chain →
      (∀ n ∈ t.name :: chain.map GNode.name, 95 ∉ n ∧ 32 ∉ n) ∧ FoundByName t chain := by
  intro t chain hne hch
  have clean : ∀ n ∈ [[112], [115], [108]], (95 : UInt8) ∉ n ∧ (32 : UInt8) ∉ n := by decide +kernel
  cases hch with
  | nil => exact absurd rfl hne
  | cons _ c rest hc hrest =>
    obtain rfl := List.mem_singleton.1 hc
    cases hrest with
    | nil => exact ⟨fun n hn => clean n (List.mem_append_left [[108]] hn), rfl, trivial⟩
    | cons _ c2 rest2 hc2 hrest2 =>
      obtain rfl := List.mem_singleton.1 hc2
      cases hrest2 with
      | nil => exact ⟨clean, rfl, rfl, trivial⟩
      | cons _ c3 _ hc3 _ => exact nomatch hc3

/-! #### what goes wrong without that hypothesis (the listed finding) -/

/-- sibling `a-b` next to a nested `a` → `b`: both are mangled to `prog__a__b` … -/
def collide : GNode :=
  .mk [112] [] [] [] [.mk [97, 45, 98] [] [[45, 45, 120]] [] [], .mk [97] [] [] [] [.mk [98] [] [[45, 45, 121]] [] []]]

/-- … so the table is ambiguous in the sense above only through equal targets, yet the two levels share
ONE arm of the `case "${cmd}"` dispatch: after `prog a b` the script offers the options of `a-b` -/
theorem collision_offers_wrong_level :
    complete collide [[112], [97], [98], []] 3 = some (.words [[45, 45, 120]]) := by decide +kernel

/-- a name containing `__` makes the generator's own path lookup fail (`find_subcommand(..).unwrap()`) -/
def oddName : GNode := .mk [112] [] [] [] [.mk [97, 95, 95, 98] [] [] [] []]
theorem double_underscore_panics : details oddName = none := by decide +kernel

/-- non-vacuity of `walk_reaches`: a two-level tree with an alias -/
def sample : GNode := .mk [112] [] [] [] [.mk [115, 45, 99] [[97, 108]] [] [] [.mk [108] [] [] [] []]]
example : walk sample (caseTable sample) [112] [] [[112], [97, 108], [108]] = [112, 95, 95, 115, 95, 95, 99, 95, 95, 108] := by decide +kernel

/-! #### elvish and PowerShell: every level is a case, under every spelling, listing all of its items -/

section CaseGen
open CaseGen Shell

/-- a chain of subcommands below a node -/
inductive CChain : CNode → List CNode → Prop
  | nil (n : CNode) : CChain n []
  | cons (n c : CNode) (rest : List CNode) : c ∈ n.subs → CChain c rest → CChain n (c :: rest)

/-- the label of a path spelling: `bin;w1;…;wk` -/
def labelOf (l : Str) : List Str → Str
  | [] => l
  | w :: ws => labelOf (l ++ [';'] ++ w) ws

def CSpells : List CNode → List Str → Prop
  | [], [] => True
  | c :: cs, w :: ws => w ∈ c.names ∧ CSpells cs ws
  | _, _ => False

theorem genSubs_eq (sh : Sh2) (labels : List Str) (subs : List CNode) :
    genSubs sh labels subs = subs.flatMap fun sc => labels.flatMap fun l => genInner sh [l] sc := by
  induction subs <;> simp [genSubs, *]

/-- under one spelling `l` of the path so far: the node's case under each of its names, then what is below it -/
theorem genInner_one (sh : Sh2) (l : Str) (n : CNode) :
    genInner sh [l] n = ((n.names.map (l ++ [';'] ++ ·)).flatMap fun l' => caseText sh l' (completions sh n)) ++
      genSubs sh (n.names.map (l ++ [';'] ++ ·)) n.subs := by
  cases n; simp [genInner, CNode.names, CNode.subs]

/-- **every subcommand path, under every spelling, has its case**: the script holds a case labelled
`bin;w1;…;wk` whose body is the candidate list of the node the words address - for every tree, any
depth, names and visible aliases alike (elvish and PowerShell generators) -/
theorem case_for_path (sh : Sh2) (n : CNode) (l : Str) (chain : List CNode) (hne : chain ≠ []) (hch : CChain n chain)
    (ws : List Str) (hsp : CSpells chain ws) (labels : List Str) (hl : l ∈ labels) :
    caseText sh (labelOf l ws) (completions sh (chain.getLast hne)) <:+: genSubs sh labels n.subs := by
  induction chain generalizing n l ws labels with
  | nil => exact absurd rfl hne
  | cons c rest ih =>
    match ws, hsp, hch with
    | w :: ws', hsp, .cons _ _ _ hmem hrest =>
      have hwl : (l ++ [';'] ++ w) ∈ c.names.map (l ++ [';'] ++ ·) := List.mem_map_of_mem hsp.1
      rw [genSubs_eq]
      refine .trans ?_ ((infix_flatMap labels (fun l => genInner sh [l] c) l hl).trans (infix_flatMap n.subs (fun sc => labels.flatMap fun l => genInner sh [l] sc) c hmem))
      rw [genInner_one]
      cases rest with
      | nil =>
        match ws', hsp.2 with
        | [], _ => exact List.infix_append_of_infix_left (infix_flatMap _ (fun l' => caseText sh l' (completions sh c)) _ hwl)
      | cons c2 rest2 => exact List.infix_append_of_infix_right (ih c _ (by simp) hrest ws' hsp.2 _ hwl)

/-- the same for the whole script body, from the root -/
theorem case_for_path_root (sh : Sh2) (bin : Str) (root : CNode) (chain : List CNode) (hne : chain ≠ []) (hch : CChain root chain)
    (ws : List Str) (hsp : CSpells chain ws) :
    caseText sh (labelOf bin ws) (completions sh (chain.getLast hne)) <:+: genRoot sh bin root := by
  unfold genRoot
  exact List.infix_append_of_infix_right (case_for_path sh root bin chain hne hch ws hsp [bin] (by simp))

/-- options that take a value come first, flags second: either way an arg's candidates are in its level's case -/
theorem optCands_in_completions (sh : Sh2) (n : CNode) (o : COpt) (ho : o ∈ n.opts) : optCands sh o <:+: completions sh n := by
  unfold completions
  by_cases ht : o.takes = true
  · exact List.infix_append_of_infix_left (List.infix_append_of_infix_left (infix_flatMap _ (optCands sh) o (List.mem_filter.2 ⟨ho, ht⟩)))
  · exact List.infix_append_of_infix_left (List.infix_append_of_infix_right (infix_flatMap _ (optCands sh) o (List.mem_filter.2 ⟨ho, by simpa using ht⟩)))

/-- **a level's case lists every long spelling of every option and flag** -/
theorem completions_has_long (sh : Sh2) (n : CNode) (o : COpt) (ho : o ∈ n.opts) (l : Str) (hl : l ∈ o.longs) :
    longCand sh l (tooltip sh o.help (o.longs.headD [])) <:+: completions sh n :=
  .trans (List.infix_append_of_infix_right (infix_flatMap o.longs (fun x => longCand sh x (tooltip sh o.help (o.longs.headD []))) l hl))
    (optCands_in_completions sh n o ho)

/-- … every short spelling … -/
theorem completions_has_short (sh : Sh2) (n : CNode) (o : COpt) (ho : o ∈ n.opts) (x : Str) (hx : x ∈ o.shorts) :
    shortCand sh x (tooltip sh o.help (o.shorts.headD [])) <:+: completions sh n :=
  .trans (List.infix_append_of_infix_left (infix_flatMap o.shorts (fun y => shortCand sh y (tooltip sh o.help (o.shorts.headD []))) x hx))
    (optCands_in_completions sh n o ho)

/-- … and every subcommand name and visible alias -/
theorem completions_has_sub (sh : Sh2) (n : CNode) (sc : CNode) (hs : sc ∈ n.subs) (nm : Str) (hn : nm ∈ sc.names) :
    subCand sh nm (tooltip sh sc.about nm) <:+: completions sh n := by
  unfold completions
  refine List.infix_append_of_infix_right (List.IsInfix.trans ?_ (infix_flatMap n.subs (fun sc => sc.names.flatMap fun nm => subCand sh nm (tooltip sh sc.about nm)) sc hs))
  exact infix_flatMap sc.names (fun nm => subCand sh nm (tooltip sh sc.about nm)) nm hn

end CaseGen

end Clap.C16

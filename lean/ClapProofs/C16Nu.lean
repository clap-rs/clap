/-
C16 — the nushell generator: every command of the tree, at every depth, has its `export extern` block in the script,
and a block spells every long and short of every option and names every positional of its level.
-/
import ClapProofs.C16
import ClapModel.NuGen
namespace Clap.C16
open Clap Shell NuGen

inductive NChain : NNode → List NNode → Prop
  | nil (n : NNode) : NChain n []
  | cons (n c : NNode) (rest : List NNode) : c ∈ n.subs → NChain c rest → NChain n (c :: rest)

theorem nu_genSubs_eq (subs : List NNode) : genSubs subs = subs.flatMap fun n => block n true ++ genSubs n.subs := by
  induction subs with
  | nil => rfl
  | cons x xs ih => cases x; simp [genSubs, genSub, NNode.subs, ih]

/-- every command below `n` has its block inside `genSubs n.subs` -/
theorem nu_block_below (n : NNode) (chain : List NNode) (hne : chain ≠ []) (hch : NChain n chain) :
    block (chain.getLast hne) true <:+: genSubs n.subs := by
  induction chain generalizing n with
  | nil => exact absurd rfl hne
  | cons c rest ih =>
    cases hch with
    | cons _ _ _ hmem hrest =>
      rw [nu_genSubs_eq]
      refine .trans ?_ (infix_flatMap n.subs _ c hmem)
      cases rest with
      | nil => exact List.infix_append_of_infix_left (List.infix_refl _)
      | cons c2 rest2 => exact List.infix_append_of_infix_right (ih c (by simp) hrest)

/-- **every command of the tree has its `export extern` block in the nushell script**, whatever its depth -/
theorem nu_block_for_chain (root : NNode) (chain : List NNode) (hne : chain ≠ []) (hch : NChain root chain) :
    block (chain.getLast hne) true <:+: script root := by
  unfold script
  exact List.infix_append_of_infix_left (List.infix_append_of_infix_right (nu_block_below root chain hne hch))

theorem nu_root_block (root : NNode) : block root false <:+: script root := by
  unfold script
  exact List.infix_append_of_infix_left (List.infix_append_of_infix_left (List.infix_append_of_infix_right (List.infix_refl _)))

theorem nu_valueAndHelp_prefix (a : NArg) (name line : Str) : line <:+: valueAndHelp a name line := by
  have h1 : line <:+: typed a name line := by
    unfold typed
    split
    · exact List.infix_append_of_infix_left (List.infix_refl _)
    · exact List.infix_refl _
  unfold valueAndHelp
  simp only
  refine List.infix_append_of_infix_left ?_
  cases a.help with
  | none => exact h1
  | some h => exact List.infix_append_of_infix_left h1

/-- a block spells every long of every option of its level … -/
theorem nu_block_has_long (n : NNode) (isSub : Bool) (a : NArg) (ha : a ∈ n.args) (hp : a.positional = false)
    (l : Str) (hl : l ∈ a.longs) : (s "--" ++ l) <:+: block n isSub := by
  have harg : (s "--" ++ l) <:+: argLines a n.binName := by
    unfold argLines
    simp only [hp, Bool.false_eq_true, ↓reduceIte]
    have key : ∀ (ls : List Str), l ∈ ls → (s "--" ++ l) <:+: ls.flatMap fun l' => valueAndHelp a n.binName (s "    --" ++ l') := by
      intro ls h
      refine List.IsInfix.trans ?_ (infix_flatMap ls _ l h)
      exact List.IsInfix.trans ⟨s "    ", [], by simp [s]⟩ (nu_valueAndHelp_prefix a n.binName _)
    cases hsh : a.shorts with
    | nil =>
      cases hlo : a.longs with
      | nil => rw [hlo] at hl; cases hl
      | cons l0 ls => simp only; exact key _ (hlo ▸ hl)
    | cons sh shs =>
      cases hlo : a.longs with
      | nil => rw [hlo] at hl; cases hl
      | cons l0 ls =>
        simp only
        rw [hlo] at hl
        rcases List.mem_cons.1 hl with rfl | h'
        · refine List.infix_append_of_infix_left (List.infix_append_of_infix_left ?_)
          refine List.IsInfix.trans ?_ (nu_valueAndHelp_prefix a n.binName _)
          exact ⟨s "    ", s "(-" ++ sh ++ s ")", by simp [s, List.append_assoc]⟩
        · exact List.infix_append_of_infix_left (List.infix_append_of_infix_right (key ls h'))
  unfold block
  exact List.infix_append_of_infix_left (List.infix_append_of_infix_right (List.IsInfix.trans harg (infix_flatMap n.args (fun a => argLines a n.binName) a ha)))

/-- … and names every positional -/
theorem nu_block_has_positional (n : NNode) (isSub : Bool) (a : NArg) (ha : a ∈ n.args) (hp : a.positional = true) :
    a.id <:+: block n isSub := by
  have harg : a.id <:+: argLines a n.binName := by
    unfold argLines
    simp only [hp, ↓reduceIte]
    refine List.IsInfix.trans ?_ (nu_valueAndHelp_prefix a n.binName _)
    split
    · exact ⟨s "    ...", [], by simp⟩
    · exact ⟨s "    ", (if a.required then [] else s "?"), by simp [List.append_assoc]⟩
  unfold block
  exact List.infix_append_of_infix_left (List.infix_append_of_infix_right (List.IsInfix.trans harg (infix_flatMap n.args (fun a => argLines a n.binName) a ha)))

end Clap.C16

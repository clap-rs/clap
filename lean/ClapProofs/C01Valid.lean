/-
C01 — the validator never panics. In the model the `expect`s on groups in `gather_arg_direct_conflicts`,
`gather_conflicts` and `is_missing_required_ok` are dead for every command level (they only look up groups that
`groups_for_arg` took from the level); the one in `unroll_args_in_group` is dead for every level whose groups name only
args and groups of that level (clap's own build assertion). For every matcher state.
-/
import ClapProofs.C01
import ClapProofs.Lemmas.RequiredWalk
namespace Clap.C01
open Clap Parser Validator

/-- **`Validator::validate` never panics** -/
theorem validate_no_panic (c : Cmd) (wg : GroupsOk c) (p : P) (e : EK) (h : validate c p = .error e) :
    isPanic e = false := by
  rcases validate_error h with rfl | rfl | h | h
  · rfl
  · rfl
  · cases (validateConflicts_error h).1
    rfl
  · rcases validateRequired_error h with rfl | h
    · rfl
    · exact absurd h (requiredLoop_ne_error wg)

end Clap.C01

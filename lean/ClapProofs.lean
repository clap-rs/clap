import ClapProofs.Lemmas.ListFold
import ClapProofs.Lemmas.CmdFields
import ClapProofs.Lemmas.ArgMap
import ClapProofs.Lemmas.Store
import ClapProofs.Lemmas.Outcome
import ClapProofs.Lemmas.Phases
import ClapProofs.Lemmas.Validator
import ClapProofs.Lemmas.RequiredWalk
import ClapProofs.Lemmas.Outcome
import ClapProofs.Lemmas.Lookup
import ClapProofs.C01
import ClapProofs.C02
import ClapProofs.C03
import ClapProofs.C04
import ClapProofs.C05
import ClapProofs.C06
import ClapProofs.C07
import ClapProofs.C08
import ClapProofs.C09
import ClapProofs.C10
import ClapProofs.C13
import ClapProofs.C14
import ClapProofs.C20
import ClapProofs.C11
import ClapProofs.C12
import ClapProofs.C19
import ClapProofs.C17
import ClapProofs.C16
import ClapProofs.C18
import ClapProofs.C18Complete
import ClapProofs.C15
import ClapProofs.C01Loop
import ClapProofs.C01Valid
import ClapProofs.C01Total
import ClapProofs.C02Attr
import ClapProofs.C02Attr2
import ClapProofs.C06Phase
import ClapProofs.C03Req
import ClapProofs.C10Unknown
import ClapProofs.C01Build
import ClapProofs.C09Iso
import ClapProofs.C16Fish
import ClapProofs.C16Nu
import ClapProofs.C16Zsh
import ClapProofs.C02Short
import ClapProofs.C03Closure
import ClapProofs.C10Accept
import ClapProofs.C05Line
import ClapProofs.C08Escape
